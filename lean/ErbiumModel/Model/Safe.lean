/-! Panic-aware evaluation: every Rust operation that can panic (slice indexing, `unwrap`, integer
    overflow/underflow in a debug build, over-wide shifts) is a primitive here that yields `.panic site`
    exactly when the Rust operation would panic.  Models written on top of these primitives carry the
    guards of the source; `NoPanic` theorems then say the guards suffice. Loops take fuel and
    *panic* when it runs out, so a `NoPanic` theorem is also the loop's termination bound. -/
namespace Erbium.Safe

inductive Out (α : Type) where
  | ok (a : α)
  | err (e : String)       -- `None` / `Err(e)`: the reported-error outcome
  | panic (site : String)
deriving Repr

def Out.bind {α β : Type} (x : Out α) (f : α → Out β) : Out β :=
  match x with
  | .ok a => f a
  | .err e => .err e
  | .panic s => .panic s

instance : Monad Out where
  pure := .ok
  bind := Out.bind

/-- `.ok_or(e)?` / `.map_err(|_| e)?` -/
def Out.orErr {α : Type} (x : Out α) (e : String) : Out α :=
  match x with
  | .err _ => .err e
  | o => o

/-- `x.ok()` / `.and_then`: an error becomes `None`, which the caller handles (never a panic) -/
def Out.toOpt {α : Type} (x : Out α) : Out (Option α) :=
  match x with
  | .ok a => .ok (some a)
  | .err _ => .ok none
  | .panic s => .panic s

def NoPanic {α : Type} (x : Out α) : Prop := ∀ s, x ≠ .panic s

/-- `l[i]` -/
def idx (site : String) (l : List Nat) (i : Nat) : Out Nat :=
  if h : i < l.length then .ok l[i] else .panic site

/-- `l[a..b]` -/
def slice (site : String) (l : List Nat) (a b : Nat) : Out (List Nat) :=
  if a ≤ b ∧ b ≤ l.length then .ok ((l.take b).drop a) else .panic site

/-- `a - b` on an unsigned type -/
def subU (site : String) (a b : Nat) : Out Nat :=
  if b ≤ a then .ok (a - b) else .panic site

/-- the result of an arithmetic operation on a `bits`-wide unsigned type -/
def fitU (site : String) (bits v : Nat) : Out Nat :=
  if v < 2 ^ bits then .ok v else .panic site

/-- `x >> n` on a `bits`-wide type -/
def shrU (site : String) (bits x n : Nat) : Out Nat :=
  if n < bits then .ok (x >>> n) else .panic site

/-- `<[u8; n]>::try_from(v).unwrap()` / `try_into().unwrap()` -/
def exactLen (site : String) (n : Nat) (v : List Nat) : Out (List Nat) :=
  if v.length = n then .ok v else .panic site

def unwrap {α : Type} (site : String) : Option α → Out α
  | some a => .ok a
  | none => .panic site

def ofOpt {α : Type} (e : String) : Option α → Out α
  | some a => .ok a
  | none => .err e

end Erbium.Safe
