import ErbiumModel.Lemmas.RaBuild
/-! # C17 — router advertisements carry exactly the configured values in RFC format -/
namespace Erbium.Props.C17
open Erbium Erbium.Radv

theorem u32_length (x : Nat) : (u32 x).length = 4 := rfl
theorem u16_length (x : Nat) : (u16 x).length = 2 := rfl

/-- **C17 (lengths).** The message length and every option length are multiples of 8 octets. -/
theorem C17_length_multiple_of_8 (a : Advert) (hll : ∀ o ∈ a.options, ∀ mac, o = .sourceLL mac → mac.length = 6) :
    (serialise a).length % 8 = 0 ∧ ∀ o ∈ a.options, (serOpt o).length % 8 = 0 := by
  have hopt : ∀ o ∈ a.options, (serOpt o).length % 8 = 0 := fun o ho => RaCodec.serOpt_length o (hll o ho)
  have := RaCodec.flatMap_length_mod8 a.options serOpt hopt
  exact ⟨by rw [RaCodec.serialise_length]; omega, hopt⟩

/-- the link-layer option the builder adds always has a 6-octet address -/
theorem build_ll_is_mac (top : Top) (i : Intf) (mac : Bytes) (hmac : mac.length = 6) (mtu : Option Nat) (s d : Nat) :
    ∀ o ∈ (build top i (some mac) mtu s d).options, ∀ m, o = .sourceLL m → m.length = 6 := by
  rintro _ ho m rfl
  rcases RaCodec.mem_build_options.mp ho with
    ⟨_, hm, h⟩ | ⟨_, _, h⟩ | ⟨_, _, h⟩ | ⟨_, _, h⟩ | ⟨_, _, h⟩ | ⟨_, _, h⟩ | ⟨_, _, h⟩ <;> cases h
  cases hm; exact hmac

def be (b : Bytes) : Nat := RaRfc.be b

/-- **C17 (never wrapped).** The header fields on the wire are the configured values, or the
    field's maximum when the value does not fit — for every lifetime / timer value. -/
theorem C17_header_fields_clamped (a : Advert) :
    let w := serialise a
    be ((w.drop 6).take 2) = min a.lifetime 65535 ∧
    be ((w.drop 8).take 4) = min (a.reachable * 1000) 0xffffffff ∧
    be ((w.drop 12).take 4) = min (a.retrans * 1000) 0xffffffff ∧
    w.getD 4 0 = a.hopLimit % 256 ∧
    w.getD 5 0 = (if a.managed then 128 else 0) + (if a.other then 64 else 0) :=
  RaCodec.serialise_header a

/-- **C17 (reserved bits of a prefix).** The bits of an advertised prefix beyond its length are zero. -/
theorem C17_prefix_host_bits_zero (addr len : Nat) : maskPrefix addr len % 2 ^ (128 - min len 128) = 0 := by
  unfold maskPrefix; exact Nat.mul_mod_left _ _

/-- **C17 (PREF64).** The prefix length code is the table of RFC 8781 §4 (read back by the
    specification's decoder), lengths without a code produce no option, and the scaled lifetime
    never exceeds its 13 bits. -/
theorem C17_pref64_code (len : Nat) :
    (∀ c, plc len = some c → RaRfc.plcLen c = some len ∧ c < 8) ∧
    (plc len = none ↔ len ∉ [32, 40, 48, 56, 64, 96]) ∧
    (∀ lt, clamp (lt / 8) 8191 * 8 ≤ 65528 ∧ clamp (lt / 8) 8191 * 8 ≤ lt) :=
  ⟨fun _ => RaCodec.plc_some, RaCodec.plc_none_iff len, fun lt => by unfold clamp; omega⟩

/-- **C17 (defaults and `null`).** Interface settings fall back to the top-level ones when not
    specified, `null` suppresses the option, and `$self6` is replaced by the interface address. -/
theorem C17_fallbacks (top : Top) (i : Intf) (ll : Option Bytes) (mtu : Option Nat) (self6 d : Nat) :
    (build top i ll mtu self6 d).lifetime = (match i.lifetime with | .value v => v | _ => d) ∧
    (i.rdnss = .dontSet → ∀ lt s, NdOpt.rdnss lt s ∉ (build top i ll mtu self6 d).options) ∧
    (i.rdnss = .notSpecified →
      NdOpt.rdnss (i.rdnssLifetime.alwaysUnwrapOr 1800) (top.dnsServers6.map fun ip => if ip = 0 then self6 else ip)
        ∈ (build top i ll mtu self6 d).options) ∧
    (∀ v, i.rdnss = .value v → NdOpt.rdnss (i.rdnssLifetime.alwaysUnwrapOr 1800) v ∈ (build top i ll mtu self6 d).options) ∧
    (i.captivePortal = .dontSet → ∀ u, NdOpt.captivePortal u ∉ (build top i ll mtu self6 d).options) ∧
    (∀ u, i.captivePortal = .notSpecified → top.captivePortal = some u →
      NdOpt.captivePortal u ∈ (build top i ll mtu self6 d).options) := by
  refine ⟨?_, ?_, ?_, ?_, ?_, ?_⟩
  · show i.lifetime.alwaysUnwrapOr d = _
    cases i.lifetime <;> rfl
  · intro h lt s ho
    rcases RaCodec.mem_build_options.mp ho with ⟨_, _, e⟩ | ⟨_, _, e⟩ | ⟨_, _, e⟩ | ⟨_, hv, e⟩ | ⟨_, _, e⟩ | ⟨_, _, e⟩ | ⟨_, _, e⟩ <;> cases e
    rw [h] at hv; cases hv
  · intro h
    exact RaCodec.mem_build_options.mpr (.inr (.inr (.inr (.inl ⟨_, by rw [h]; rfl, rfl⟩))))
  · intro v h
    exact RaCodec.mem_build_options.mpr (.inr (.inr (.inr (.inl ⟨_, by rw [h]; rfl, rfl⟩))))
  · intro h u ho
    rcases RaCodec.mem_build_options.mp ho with ⟨_, _, e⟩ | ⟨_, _, e⟩ | ⟨_, _, e⟩ | ⟨_, _, e⟩ | ⟨_, _, e⟩ | ⟨_, _, e⟩ | ⟨_, hv, e⟩ <;> cases e
    rw [h] at hv; cases hv
  · intro u h hu
    exact RaCodec.mem_build_options.mpr (.inr (.inr (.inr (.inr (.inr (.inr ⟨_, by rw [h, ← hu]; rfl, rfl⟩))))))

open Erbium.RaCodec in
/-- **C17 (the general statement).** For every top-level and interface configuration, link-layer address, MTU, own
    address and default lifetime that the wire format can carry (`CfgOK`: hop limit below 256, a 6-octet link-layer
    address, prefix lengths ≤ 128 and 128-bit addresses, at most 127 DNS servers, search domains whose labels have
    1..63 octets and fit one option, a captive-portal URL without NUL that fits one option) — and for *any* lifetimes,
    reachable/retransmit times, flags, number of prefixes, NAT64 prefix length — the advertisement the builder makes,
    serialised, is decoded by the decoder written from RFC 4861/8106/8781/8910 to **exactly the documented values**
    (`RaRfc.expected`: top-level settings as defaults, `null` suppressing an option, `$self6` replaced, values too
    large for their field clamped, prefix bits beyond the length zero). -/
theorem C17_decode_is_documented (top : Top) (i : Intf) (ll : Option Bytes) (mtu : Option Nat) (self6 dl : Nat)
    (h : CfgOK top i ll mtu self6) :
    RaRfc.decode (serialise (build top i ll mtu self6 dl)) = some (RaRfc.expected top i ll mtu self6 dl) := by
  rw [decode_serialise _ h.hop (cfgok_options h dl), specRa_build _ _ _ _ _ _ (fun p hp => (h.prefixes p hp).1)]

open Erbium.RaCodec in
/-- **C17 (never silently wrapped), for every configuration whatsoever** — any number of DNS servers, any list of
    search domains, any URL: the RDNSS addresses are sent as a sequence of options (127 addresses each at most), the
    DNSSL and the captive-portal option are sent whole or not at all (with a warning), and every option that is sent
    states its true length in its length octet. (`WellFramed b`: `b` is empty or `type :: l :: body` with
    `0 < l < 256` and `|body| + 2 = 8·l`.) Depends on the three narrowing sites of the serialiser being the checked
    ones (`Generated.Ra.*`, extracted). -/
theorem C17_option_lengths_never_wrap (lt : Nat) (servers : List Nat) (domains : List Bytes) (url : Bytes) :
    (∃ parts : List Bytes, serOpt (.rdnss lt servers) = parts.flatten ∧ ∀ p ∈ parts, WellFramed p) ∧
    WellFramed (serOpt (.dnssl lt domains)) ∧ WellFramed (serOpt (.captivePortal url)) :=
  ⟨rdnss_never_wraps lt servers, dnssl_never_wraps lt domains, captive_never_wraps url⟩

open Erbium.RaCodec in
/-- the same for any advertisement, however it was built: serialise, then decode by the RFCs, gives its values -/
theorem C17_decode_serialise (a : Advert) (hh : a.hopLimit < 256) (ho : ∀ o ∈ a.options, OptOK o) :
    RaRfc.decode (serialise a) = some (specRa a) := decode_serialise a hh ho

/-! Non-vacuity / RFC decoding of a concrete advertisement (a test, labelled as such): lifetime
    86400 s is sent as 65535, the /64 prefix written with host bits is sent masked, NAT64 /64 has
    code 1, and the RFC decoder reads back exactly the expected values. -/
def exTop : Top := { dnsServers6 := [0], dnsSearch := [[108, 97, 110]], captivePortal := none }
def exIntf : Intf :=
  { hoplimit := 64, managed := false, other := true, lifetime := .value 86400, reachable := 0, retrans := 0,
    prefixes := [{ addr := 0x20010db8000000010000000000000001, len := 64, onlink := true, autonomous := true, valid := 2592000, preferred := 604800 }],
    rdnssLifetime := .notSpecified, rdnss := .notSpecified, dnsslLifetime := .notSpecified, dnssl := .notSpecified,
    captivePortal := .dontSet, pref64 := some (600, 0x0064ff9b000000000000000000000000, 64) }
example : RaRfc.decode (serialise (build exTop exIntf (some [2, 0, 0, 0, 0, 1]) (some 1500) 0xfe800000000000000000000000000001 1800))
    = some (RaRfc.expected exTop exIntf (some [2, 0, 0, 0, 0, 1]) (some 1500) 0xfe800000000000000000000000000001 1800) := by
  decide +kernel

open Erbium.RaCodec in
/-- the example configuration above meets the hypotheses of the general statement -/
example : CfgOK exTop exIntf (some [2, 0, 0, 0, 0, 1]) (some 1500) 0xfe800000000000000000000000000001 where
  hop := by decide
  ll := by rintro _ ⟨⟩; rfl
  mtu := by rintro _ ⟨⟩; decide
  prefixes := by decide
  servers := by rintro _ ⟨⟩; decide
  domains := by rintro _ ⟨⟩; exact ⟨by unfold DomainOK; decide, by decide⟩
  pref64 := by rintro _ _ _ ⟨⟩; decide
  url := by rintro _ ⟨⟩

end Erbium.Props.C17
