import ErbiumModel.Lemmas.Select
import ErbiumModel.Generated.Dhcp
/-! # C01 — DHCP never leases one address to two clients at the same time -/
namespace Erbium.Props.C01
open Erbium Erbium.Pool

/-- "an unexpired belief is backed by the row": the invariant of the lease store -/
def Inv (st : State) : Prop :=
  Uniq st.rows ∧
  ∀ a x E, st.belief a x = some E → E > st.now →
    ∃ r, rowOf st.rows x = some r ∧ r.client = a ∧ r.expiry = E

/-- `holds a x` and `holds b x` at the current instant for two different clients -/
def Safe (st : State) : Prop :=
  ∀ a b x Ea Eb, a ≠ b → st.belief a x = some Ea → st.belief b x = some Eb →
    ¬ (Ea > st.now ∧ Eb > st.now)

theorem Inv.safe {st} (h : Inv st) : Safe st := by
  intro a b x Ea Eb hab ha hb ⟨h1, h2⟩
  obtain ⟨r, hr, hc, _⟩ := h.2 a x Ea ha h1
  obtain ⟨r', hr', hc', _⟩ := h.2 b x Eb hb h2
  rw [hr] at hr'; cases hr'; exact hab (hc ▸ hc')

theorem inv_tick {st n} (h : Inv st) : Inv (tick st n) := by
  refine ⟨h.1, ?_⟩
  intro a x E hb hE
  exact h.2 a x E hb (by simp [tick] at hE; omega)

/-- one step: any allowed choice of address, any pool, any lease length, second clock read later -/
theorem inv_grant {st c x ty d now' L req pool opts}
    (h : Inv st) (hx : Outcome.ok x ty d ∈ allowed st.rows st.now c req pool) (hnow : st.now ≤ now') :
    Inv (grant st c x now' L opts) := by
  refine ⟨uniq_put h.1, fun a y E hb hE => ?_⟩
  rw [rowOf_grant]
  change (if a = c ∧ y = x then some (now' + L) else st.belief a y) = some E at hb
  change E > now' at hE
  by_cases hy : y = x
  · subst hy
    rw [if_pos rfl]
    by_cases ha : a = c
    · rw [if_pos ⟨ha, rfl⟩] at hb
      cases hb; exact ⟨_, rfl, ha.symm, rfl⟩
    · -- another client's unexpired belief on the granted address: impossible
      rw [if_neg fun h => ha h.1] at hb
      obtain ⟨r, hr, hc, he⟩ := h.2 a y E hb (by omega)
      exact absurd (hc.symm.trans ((allowed_sound h.1 hx).2 r hr (by omega))) ha
  · rw [if_neg hy]
    rw [if_neg fun h => hy h.2] at hb
    exact h.2 a y E hb (by omega)

theorem reach_inv {st} (h : Reach st) : Inv st := by
  induction h with
  | init now => exact ⟨uniq_nil, by intro a x E hb; simp at hb⟩
  | tick n _ ih => exact inv_tick ih
  | grant c req pool x ty d now' lo hi opts _ hx hnow ih => exact inv_grant ih hx hnow
  | restart _ ih => exact ih

/-- **C01.** In every state reachable by any finite history of DISCOVER/REQUEST grants (any
    clients, any requested address, any pool per message, any lease bounds), clock advances and
    restarts, and at every instant `t` from that state on until the next event, no address is held
    (told to a client, recorded expiry `> t`) by two different clients. -/
theorem C01_no_double_lease {st} (h : Reach st) (a b : Client) (x t Ea Eb : Nat) (hab : a ≠ b)
    (ht : st.now ≤ t) (ha : st.belief a x = some Ea) (hb : st.belief b x = some Eb) :
    ¬ (Ea > t ∧ Eb > t) := by
  intro ⟨h1, h2⟩
  exact (reach_inv h).safe a b x Ea Eb hab ha hb ⟨by omega, by omega⟩

/-- every reply's belief is backed by the stored row (what `holds` refers to) -/
theorem C01_belief_backed {st} (h : Reach st) (a : Client) (x E : Nat)
    (hb : st.belief a x = some E) (hE : E > st.now) :
    ∃ r, rowOf st.rows x = some r ∧ r.client = a ∧ r.expiry = E :=
  (reach_inv h).2 a x E hb hE

/-- single row per address (`INSERT OR REPLACE` on the primary key) in every reachable state -/
theorem C01_one_row_per_address {st} (h : Reach st) : Uniq st.rows := (reach_inv h).1

/-! Non-vacuity: a reachable state in which two clients hold two different addresses, and in
    which the second client asked for the first client's address. -/
def ex0 : State := { rows := [], now := 1000, belief := fun _ _ => none }
example : Outcome.ok 5 .newAddress 0 ∈ allowed ex0.rows ex0.now [1] none [5, 6] := by decide
example : Outcome.ok 6 .newAddress 0 ∈
    allowed (grant ex0 [1] 5 1000 300 []).rows 1000 [2] (some 5) [5, 6] := by decide
example : Reach (grant (grant ex0 [1] 5 1000 (clamp 0 300 86400) []) [2] 6 1000 (clamp 0 300 86400) []) :=
  Reach.grant [2] (some 5) [5, 6] 6 .newAddress 0 1000 300 86400 [] 
    (Reach.grant [1] none [5, 6] 5 .newAddress 0 1000 300 86400 [] (Reach.init 1000) (by decide) (Nat.le_refl _))
    (by decide) (Nat.le_refl _)

/-- **C01 (one packet at a time — the model's atomic step is the code's).** The histories the theorems quantify over
    interleave *whole* packet handlings. That is what the code does: `handle_pkt` is an ordinary (non-`async`) function
    taking the pool by exclusive reference, called with the guard of the pool's mutex, so no other task can touch the
    lease table between the reads and the write of one handling (Rust's borrow rules, extracted shape). -/
theorem C01_one_packet_at_a_time : Generated.Dhcp.handlePktExclusive = true := by decide

end Erbium.Props.C01
