import ErbiumModel.Lemmas.DnsReply
import ErbiumModel.Lemmas.DnsTruncated
/-! # C04 — every DNS response is well-formed and respects the transport's size limit -/
namespace Erbium.Props.C04
open Erbium Erbium.DnsWire Erbium.DnsRelay

/-- the number of records a section reports is the number it appended, and it reports
    truncation exactly when it stopped early -/
theorem pushSection_count (size : Nat) (rrs : List RR) (buf : Bytes) (t : Tree) (n : Nat)
    {buf' t' n' tr} (hs : pushSection size rrs buf t n = some (buf', t', n', tr)) :
    n ≤ n' ∧ n' - n ≤ rrs.length ∧ (tr = false → n' - n = rrs.length) ∧ (tr = true → n' - n < rrs.length) := by
  obtain ⟨k, _, _, _, rfl, hk, _⟩ := pushSection_spec hs
  cases tr <;> simp at hk ⊢ <;> omega

theorem u16_length (x : Nat) : (u16 x).length = 2 := rfl

/-- **C04 (size limit).** Whatever the message and whatever limit ≥ 512 the transport passes,
    if the header and question fit, the serialised response is never longer than the limit —
    also after the section counts have been rewritten for truncation. -/
theorem C04_never_exceeds_limit (p : Pkt) (size : Nat) (w : Bytes)
    (hs : serialiseWithSize p size = some w)
    (hq : ∀ qb t0, pushName p.qdomain root 12 = some (qb, t0) → 12 + qb.length + 4 ≤ size) :
    w.length ≤ size := by
  obtain ⟨qb, t0, h0, hle⟩ := serialise_le hs
  have := hq qb t0 h0
  omega

/-- **C04 (transports).** UDP hands the serialiser `max(512, advertised)`, TCP hands it 65535 —
    the call sites in `run_udp` / `run_tcp` regenerated from the source. -/
theorem C04_transport_limits :
    Generated.Dns.udpLimitedToAdvertised = true ∧ Generated.Dns.tcpComplete = true ∧
    Generated.Dns.prepareFloor = 512 ∧ (∀ q : Pkt, udpLimit q = max q.bufsize 512) ∧ tcpLimit = 65535 := by
  refine ⟨by decide, by decide, by decide, ?_, rfl⟩
  intro q; simp [udpLimit, Generated.Dns.prepareFloor]

/-- the advertised size the decoder reports is never below 512 (`max(class of OPT, 512)`), so a
    UDP response to a client that advertised nothing is limited to 512 octets -/
theorem C04_udp_limit_at_least_512 (q : Pkt) : 512 ≤ udpLimit q := by
  simp [udpLimit, Generated.Dns.prepareFloor]; omega

/-- the ranges used to rewrite the section counts are the counts' own two-octet fields -/
theorem C04_counts_rewritten_in_place : Generated.Dns.spliceRanges = [(6, 8), (8, 10), (10, 12)] := by decide

/-- **C04 (a complete response parses, and its counts are its contents).** A response of the decoder's shape that is
    written completely decodes to itself: it parses as a DNS message, and the header counts the decoder followed were
    exactly the numbers of records present in each section. -/
theorem C04_complete_response_decodes_to_itself (p : Pkt) (hw : WfPkt p) (size : Nat) (wire : Bytes) (hs : 512 ≤ size)
    (hc : Complete p size wire) (hsz : wire.length < 65536) :
    serialiseWithSize p size = some wire ∧ parse wire = .ok p :=
  ⟨complete_serialise p size wire hs hw.rcode hc, message_roundtrip p hw size wire hc hsz⟩

/-- **C04 (every response).** Whatever `serialise_with_size` returns for a message of the decoder's shape, at any
    limit ≥ 512 and within 65535 octets, parses — either to the message itself, or to the message cut at a record
    boundary (`truncated`: the first `ka`, `kn`, `kd` records of the sections, TC set, EDNS record gone), where
    `CutAt` says records are omitted only from the end: inside the answers (then no authority and no additional
    records follow), inside the authority section (answers complete) or inside the additional section (both
    complete). The header counts the decoder followed are the numbers of records present. -/
theorem C04_every_response_decodes (p : Pkt) (hw : WfPkt p) (size : Nat) (hs : 512 ≤ size) (wire : Bytes)
    (h : serialiseWithSize p size = some wire) (hsz : wire.length < 65536) :
    parse wire = .ok p ∨ ∃ ka kn kd, CutAt p ka kn kd ∧ parse wire = .ok (truncated p ka kn kd) :=
  serialise_parses hw h hsz

/-- **C04 (TC exactly when records were omitted).** A response that was cut carries TC; a response that was not
    carries the TC bit of the message it was built from. -/
theorem C04_tc_iff_truncated (p : Pkt) (ka kn kd : Nat) : (truncated p ka kn kd).tc = true := rfl

/-- **C04 (complete whenever it fits).** If the complete encoding of a message — obtained under any limit — is no
    longer than the limit in force (65535 on TCP), the response at that limit is that complete encoding. -/
theorem C04_complete_whenever_it_fits (p : Pkt) (hw : WfPkt p) (size size2 : Nat) (wire : Bytes) (hs : 512 ≤ size2)
    (hc : Complete p size wire) (hfit : wire.length ≤ size2) : serialiseWithSize p size2 = some wire :=
  complete_serialise p size2 wire hs hw.rcode (complete_fits hc hfit)

/-- **C04 (end to end, any transport limit).** For any strings of octets the decoder accepts as the query `q` and
    the upstream reply `r`, and any limit between 512 and 65535 (UDP: `max(advertised, 512)`; TCP: 65535):
    the response **exists** (the encoder does not panic), is **no longer than the limit**, and **parses** — to the
    assembled reply as sent, or to that reply cut at a record boundary from the end with TC set, its header counts
    being the numbers of records present. -/
theorem C04_end_to_end (bq br : Bytes) (hbq : Octets bq) (hbr : Octets br) (q r : Pkt)
    (hq : parse bq = .ok q) (hr : parse br = .ok r) (had : r.additional.length + 1 < 65536)
    (ip ck : Bytes) (hip : ip.length < 65536) (hck : ck.length + 8 < 65536)
    (size : Nat) (hs : 512 ≤ size) (hs2 : size < 65536) :
    ∃ wire, serialiseWithSize (createInReply q r ip ck) size = some wire ∧ wire.length ≤ size ∧
      (parse wire = .ok (asSent (createInReply q r ip ck)) ∨
       ∃ ka kn kd, CutAt (asSent (createInReply q r ip ck)) ka kn kd ∧
         parse wire = .ok (truncated (asSent (createInReply q r ip ck)) ka kn kd)) := by
  have hw := createInReply_wf (parse_wf hbq hq).1 (parse_wf hbr hr).1 had ip ck hip hck
  obtain ⟨wire, h, hdec⟩ := serialise_decodes _ (reply_enc hbq hbr hq hr ip ck) hw size hs hs2
  exact ⟨wire, (serialise_asSent _ size).symm.trans h, hdec⟩

/-- the UDP limit of a decoded query is within the range `C04_end_to_end` covers, and it is `max(advertised, 512)` -/
theorem C04_udp_limit_in_range (bq : Bytes) (hbq : Octets bq) (q : Pkt) (hq : parse bq = .ok q) :
    512 ≤ udpLimit q ∧ udpLimit q < 65536 ∧ udpLimit q = max q.bufsize 512 := by
  have hw := (parse_wf hbq hq).1
  have := hw.bufsize
  have hp : Generated.Dns.prepareFloor = 512 := by decide
  unfold udpLimit
  rw [hp]
  refine ⟨Nat.le_max_right _ _, ?_, rfl⟩
  rw [Nat.max_def]; split <;> omega

/-! Non-vacuity: a response with forty address records does not fit 512 octets; what is returned is cut inside
    the answer section and decodes to the message cut there (evaluated by the kernel on the executable model). -/
def exBig : Pkt :=
  { qid := 9, rd := true, tc := false, aa := false, qr := true, opcode := 0, cd := false, ad := false, ra := true, rcode := 0,
    bufsize := 1232, ednsVer := some 0, ednsDo := false, qdomain := [[101, 120], [99]], qclass := 1, qtype := 28,
    answer := List.replicate 40 { domain := [[101, 120], [99]], cls := 1, rrtype := 28, ttl := 60,
                                  rdata := .other (List.replicate 16 7) },
    nameserver := [{ domain := [[99]], cls := 1, rrtype := 2, ttl := 60, rdata := .ns [[110], [99]] }],
    additional := [], edns := some [] }
example : (match serialiseWithSize exBig 512 with
    | some w => decide (w.length ≤ 512) &&
        (match parse w with
         | .ok q => decide (q = truncated exBig q.answer.length 0 0) && decide (q.answer.length < 40) && q.tc
         | .error _ => false)
    | none => false) = true := by decide +kernel

end Erbium.Props.C04
