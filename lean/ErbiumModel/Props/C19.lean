import ErbiumModel.Lemmas.ConfigSafe
import ErbiumModel.Lemmas.DhcpSafe
/-!
# C19 — configuration loading is total, accepted configurations are safe to serve

`yaml_rust` turns the text into a YAML tree (trusted, see DESIGN.md); from there every value reaches
one of the typed parsers below.  They are modelled over `Safe.Out` (a panic is a value), with the
guards regenerated from `config.rs`, and proved never to panic **for every YAML value**: wrong types
(whose error message formats the offending type, including an empty array), nulls, numbers out of
range, durations of any text, hardware addresses of any text, prefixes with any length.  What they
accept is bounded (prefix lengths fit the address family, durations fit 64 bits), and those bounds
are what the handlers' arithmetic needs.
-/
namespace Erbium.Props.C19
open Erbium.Safe Erbium.ConfigSafe

/-- the type-name formatter used by every type error, on every value — empty arrays included -/
theorem C19_type_errors_never_panic (y : Yaml) :
    NoPanic (typeToName y) ∧ NoPanic (parseString y) ∧ NoPanic (parseI64 y) ∧ NoPanic (parseBoolean y) ∧
    NoPanic (parseSearchDomain y) :=
  ⟨(typeToName_spec y).noPanic, (parseString_spec y).noPanic, (parseI64_spec y).noPanic, (parseBoolean_spec y).noPanic,
   (parseSearchDomain_spec y).noPanic⟩

/-- numbers: any YAML value is either refused or lies in the range of the target type -/
theorem C19_numbers_in_range (lo hi : Int) (y : Yaml) :
    NoPanic (parseNum lo hi y) ∧ ∀ v, parseNum lo hi y = .ok (some v) → lo ≤ v ∧ v ≤ hi := by
  refine ⟨(parseNum_spec lo hi y).noPanic, ?_⟩
  intro v h
  exact (parseNum_spec lo hi y).of_eq_ok h v rfl

/-- arrays of anything the element parser handles -/
theorem C19_arrays_never_panic {α : Type} (parser : Yaml → Out (Option α)) (hp : ∀ y, NoPanic (parser y)) (y : Yaml) :
    NoPanic (parseArray parser y) :=
  (parseArray_spec parser (fun y => Post.of_noPanic (hp y)) y).noPanic

/-- durations: every text (units without numbers, digit strings of any length, any characters) and
    every integer gives a value below 2^64 seconds, nothing, or an error -/
theorem C19_durations_total_and_bounded (y : Yaml) :
    NoPanic (parseDuration y) ∧ ∀ v, parseDuration y = .ok (some v) → v < 2 ^ 64 := by
  refine ⟨(parseDuration_spec y).noPanic, ?_⟩
  intro v h
  exact (parseDuration_spec y).of_eq_ok h v rfl

theorem C19_hwaddr_never_panics (y : Yaml) : NoPanic (parseHwaddr y) := (parseHwaddr_spec y).noPanic

/-- prefixes: any text, any verdict of the address parser; an accepted prefix has a length that fits
    its family -/
theorem C19_prefix_lengths_fit (want : PrefixWant) (s : String) (ip : IpKind) :
    NoPanic (strPrefix want s ip) ∧
    ∀ fam a len, strPrefix want s ip = .ok (fam, a, len) → (fam = 4 ∧ len ≤ 32) ∨ (fam = 6 ∧ len ≤ 128) := by
  refine ⟨(strPrefix_spec want s ip).noPanic, ?_⟩
  intro fam a len h
  exact (strPrefix_spec want s ip).of_eq_ok h

/-- an accepted IPv4 prefix is safe to serve: the host range of `addresses` (per request, in
    `build_default_config`) and of `apply-subnet` (at load) is computed without shift overflow,
    underflow or 32-bit address overflow, for every length 0..32 and every address -/
theorem C19_accepted_prefix_safe_to_serve (minLen addr len : Nat) (hmin : 1 ≤ minLen) (hlen : len ≤ 32) (ha : addr < 2 ^ 32) :
    NoPanic (hostAddrs minLen (addr - addr % 2 ^ (32 - len)) len) := by
  exact (hostAddrs_spec minLen _ len hlen hmin (Nat.sub_mod_eq_zero_of_mod_eq (Nat.mod_mod ..).symm)
    (Nat.lt_of_le_of_lt (Nat.sub_le ..) ha)).noPanic

/-- the minimum pool length in the source is at least 1, which is what rules out the `/0` shift -/
theorem C19_min_pool_length_positive :
    1 ≤ Generated.Dhcp.defaultPoolMinLen ∧ 1 ≤ Generated.Dhcp.applySubnetMinLen := by decide

/-- route and subnet prefixes go through `Ipv4Subnet::new`, total on every length octet (C05) -/
theorem C19_route_prefix_total (addr len : Nat) : NoPanic (DhcpSafe.subnetNew addr len) :=
  (DhcpSafe.subnetNew_spec addr len).noPanic

/-! hostile values take the guarded branches: a reported error or "no pool", not a panic -/
def isErr {α : Type} : Out α → Bool
  | .err _ => true
  | _ => false
example : isErr (parseString (.arr [])) = true := by decide                     -- `lifetime: []`
example : isErr (parseDuration (.str "s")) = true := by decide                  -- unit without a number
example : isErr (parseDuration (.str "99999999999999999999s")) = true := by decide
example : (match hostAddrs 8 0 0 with | .ok none => true | _ => false) = true := by decide   -- `addresses: [0.0.0.0/0]`
example : (match parseDuration (.str "1h 30m") with | .ok (some 5400) => true | _ => false) = true := by decide
-- without the minimum length the `/0` shift panics: `hmin` of `C19_accepted_prefix_safe_to_serve` is needed
example : (match hostOffsets 0 0 with | .panic _ => true | _ => false) = true := by decide

end Erbium.Props.C19
