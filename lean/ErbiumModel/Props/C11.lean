import ErbiumModel.Lemmas.Policy
/-!
# C11 — DHCP policies select and override options exactly as the manual describes

`Spec/PolicyDoc.lean` is erbium.conf(5) written as a specification (which policies apply, the chain
of applied policies, "the innermost mention wins", `null` unsets, parameter-list gating, defaults).
`Model/DhcpServer.lean` follows `dhcp/mod.rs` (recursive `apply_policy` mutating a three-state
response) and is tied to the code by the `dhcp` correspondence suite.  The theorems below show that
the two agree for **every** policy forest, top-level configuration and request.
-/
namespace Erbium.Props.C11
open Erbium Erbium.Dhcp Erbium.PolicyDoc

/-- the response the plan hands to the pool step -/
def planResp (cfg : Cfg) (req : Req) : Resp :=
  let r0 : Resp := setOpt (setOpt {} 53 (some [2])) 54 (some (ser32 req.serverip))
  (applyPolicies req (mapValuesL (implResolve req) cfg.policies) (applyPolicies req [buildDefault cfg req] r0).1).1

/-- the code resolves `$self4` in applied values the way the manual says (flag regenerated from `apply_policy`) -/
theorem implResolve_eq (req : Req) : implResolve req = resolveSelf req := by
  funext k v
  simp [implResolve, Generated.Dhcp.policySelf4Resolved]

/-- `planResp` is the response the handler's plan carries -/
theorem plan_resp {cfg : Cfg} {req : Req} {ids : List Nat} {c : Bytes} {rq : Option Nat} {pool : List Nat} {resp : Resp} {isReq : Bool}
    (h : plan cfg req ids = .alloc c rq pool resp isReq) : resp = planResp cfg req :=
  (go_alloc (plan_alloc h).1).2

/-- **C11 (refinement).** The three-state table `dhcp/mod.rs` ends up with is the documented one. -/
theorem C11_table_as_documented (cfg : Cfg) (req : Req) (k : Nat) :
    ropt (planResp cfg req) k = docTable cfg req k := by
  unfold planResp docTable
  simp only
  rw [((apply_refines req).1 _ _).2 k, implResolve_eq]
  congr 1
  funext k'
  rw [((apply_refines req).1 [buildDefault cfg req] _).2 k']
  congr 1
  funext k''
  rw [ropt_setOpt, ropt_setOpt]
  by_cases h54 : k'' = 54
  · simp [h54]
  · by_cases h53 : k'' = 53
    · simp [h53]
    · simp [h54, h53, ropt]

/-- … and what is sent is what that table holds (`null` = not sent) -/
theorem C11_sent_as_documented (cfg : Cfg) (req : Req) (k : Nat) :
    lookupOpt (toOptions (planResp cfg req)) k = docSent cfg req k := by
  have hsent : SentIsTable (planResp cfg req) := by
    unfold planResp
    exact (sentIsTable_apply req).1 _ _ ((sentIsTable_apply req).1 _ _ (sentIsTable_setOpt (sentIsTable_setOpt (fun _ => rfl) _ _) _ _))
  rw [hsent k, C11_table_as_documented]; rfl

/-- the options of the reply on the wire, apart from message type, server identifier and lease time
    (which the reply builder sets itself), are the documented ones -/
theorem C11_reply_options_as_documented (cfg : Cfg) (req : Req) (isReq : Bool) (x L k : Nat)
    (h53 : k ≠ 53) (h54 : k ≠ 54) (h51 : k ≠ 51) :
    lookupOpt (reply req (planResp cfg req) isReq x L).options k = docSent cfg req k := by
  rw [reply_options, if_neg h51, if_neg h54, if_neg fun h => h53 h.1, C11_sent_as_documented]

/-! ### the clauses of the statement, read off the documented table -/

/-- "sibling policies are tried in order and the first whose conditions all hold is applied" -/
theorem C11_first_matching_sibling (req : Req) (p : Policy) (ps : List Policy) :
    (applies req p = true → chainIn req (p :: ps) = chainOf req p) ∧
    (applies req p = false → chainIn req (p :: ps) = chainIn req ps) := by
  rw [chainIn_cons]
  constructor <;> intro h <;> simp [h]

/-- "a policy without conditions applies only if one of its sub-policies does" — and one with
    conditions applies exactly when all of them hold -/
theorem C11_conditions (req : Req) (p : Policy) :
    applies req p = if hasConds p then condsHold req p else anyApplies req p.subs := by
  obtain ⟨a, b, c, d, e, f, s⟩ := p
  conv => lhs; unfold applies
  rfl

/-- "an option is only sent if the client asked for it in its parameter request list" -/
theorem C11_only_requested_options (cfg : Cfg) (req : Req) (k : Nat) (hk : (paramList req).contains k = false)
    (h53 : k ≠ 53) (h54 : k ≠ 54) : docSent cfg req k = none := by
  have hk' : k ∉ paramList req := by simpa using hk
  unfold docSent docTable
  simp [tableAfter, hk', h53, h54]

/-- "options of outer policies are applied first and inner policies override them; `null` removes
    an inherited or default value": whatever the defaults and the outer policies say, the innermost
    configured policy of the chain that mentions `k` decides — its value is sent, its `null` sends nothing -/
theorem C11_innermost_mention_decides (cfg : Cfg) (req : Req) (k : Nat) (v : Option Bytes)
    (hk : (paramList req).contains k = true)
    (hv : chainValue (chainIn req (mapValuesL (resolveSelf req) cfg.policies)) k = some v) :
    docSent cfg req k = v := by
  have hk' : k ∈ paramList req := by simpa using hk
  unfold docSent docTable
  simp [tableAfter, hk', hv]

/-- "top-level defaults … apply unless overridden": when no configured policy of the chain mentions
    `k`, the table is the one of the built-in base policy (plus the matched subnet's netmask/broadcast) -/
theorem C11_defaults_unless_overridden (cfg : Cfg) (req : Req) (k : Nat)
    (hk : (paramList req).contains k = true)
    (hv : chainValue (chainIn req (mapValuesL (resolveSelf req) cfg.policies)) k = none)
    (hd : ∃ v, tableAfter (paramList req)
            (fun k => if k == 54 then some (some (ser32 req.serverip)) else if k == 53 then some (some [2]) else none)
            (chainIn req [buildDefault cfg req]) k = some v) :
    docTable cfg req k = tableAfter (paramList req)
            (fun k => if k == 54 then some (some (ser32 req.serverip)) else if k == 53 then some (some [2]) else none)
            (chainIn req [buildDefault cfg req]) k := by
  obtain ⟨v, hv'⟩ := hd
  unfold docTable
  simp only
  rw [tableAfter]
  simp only [hk, Bool.not_true, Bool.false_eq_true, if_false, hv, orr_none, hv', orr_some]

/-- the DNS servers of the base policy: the top-level list with `$self4` replaced by the receiving address -/
theorem C11_default_dns_servers (cfg : Cfg) (req : Req) :
    mention (buildDefault cfg req) 6 = some (some (defaultDns cfg req)) ∧
    mention (buildDefault cfg req) 119 = some (some cfg.dnsSearch) ∧
    mention (buildDefault cfg req) 114 = some cfg.captivePortal := by
  unfold mention buildDefault
  simp [Policy.applyOther]

/-! non-vacuity: a nested forest where the inner policy unsets what the outer one set -/
def exInner : Policy := .mk false (some [0, 0, 0x5e, 0, 0x53, 1]) none [] none [(15, none)] []
def exOther : Policy := .mk false none none [(60, some [77])] none [(15, some [98])] []
def exOuter : Policy := .mk false none (some (0xc0000200, 24)) [] (some [0xc0000205]) [(15, some [97]), (42, some [1, 2, 3, 4])] [exOther, exInner]
def exCfg : Cfg := { dnsServers := [none], policies := [exOuter] }
def exPkt (chaddr : List Nat) (opts : DhcpWire.Opts) : DhcpWire.Dhcp :=
  { op := 1, htype := 1, hlen := 6, hops := 0, xid := 1, secs := 0, flags := 0, ciaddr := 0, yiaddr := 0, siaddr := 0, giaddr := 0,
    chaddr, sname := [], file := [], options := opts }
def exReq (chaddr : List Nat) (opts : DhcpWire.Opts) : Req := { pkt := exPkt chaddr opts, serverip := 0xc0000201 }

-- the reserved host: inner `null` removes the domain name, the outer NTP server stays, netmask of the matched subnet, DNS = receiving address
example : docSent exCfg (exReq [0, 0, 0x5e, 0, 0x53, 1] [(55, [15, 42, 1, 6])]) 15 = none := by decide
example : docSent exCfg (exReq [0, 0, 0x5e, 0, 0x53, 1] [(55, [15, 42, 1, 6])]) 42 = some [1, 2, 3, 4] := by decide
example : docSent exCfg (exReq [0, 0, 0x5e, 0, 0x53, 1] [(55, [15, 42, 1, 6])]) 1 = some [255, 255, 255, 0] := by decide
example : docSent exCfg (exReq [0, 0, 0x5e, 0, 0x53, 1] [(55, [15, 42, 1, 6])]) 6 = some [192, 0, 2, 1] := by decide
-- a client matching the first sibling (class-id 77) gets that sibling's value even though the second would also apply
example : docSent exCfg (exReq [0, 0, 0x5e, 0, 0x53, 1] [(55, [15]), (60, [77])]) 15 = some [98] := by decide
-- `$self4` in a policy value is the receiving address
example : docSent { policies := [.mk false none (some (0xc0000200, 24)) [] (some [1]) [(3, some [0, 0, 0, 0]), (12, some [0, 0, 0, 0])] []] }
    (exReq [2, 0, 0, 0, 0, 9] [(55, [3, 12])]) 3 = some [192, 0, 2, 1] := by decide
example : docSent { policies := [.mk false none (some (0xc0000200, 24)) [] (some [1]) [(3, some [0, 0, 0, 0]), (12, some [0, 0, 0, 0])] []] }
    (exReq [2, 0, 0, 0, 0, 9] [(55, [3, 12])]) 12 = some [0, 0, 0, 0] := by decide
-- another host: no sub-policy applies, the outer value stands; not asked for = not sent
example : docSent exCfg (exReq [2, 0, 0, 0, 0, 9] [(55, [15])]) 15 = some [97] := by decide
example : docSent exCfg (exReq [2, 0, 0, 0, 0, 9] [(55, [15])]) 42 = none := by decide

end Erbium.Props.C11
