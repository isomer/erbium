import ErbiumModel.Model.Pool
import ErbiumModel.Lemmas.LeaseJson
/-! # C20 — the lease listing and the lease gauges report the lease store truthfully -/
namespace Erbium.Props.C20
open Erbium Erbium.Pool Erbium.Generated.Pool

theorem sum_indicator {α : Type} (s : List α) (p : α → Bool) :
    (s.map fun r => if p r then 1 else 0).sum = s.countP p := by
  induction s with
  | nil => rfl
  | cons r rs ih =>
    simp only [List.map_cons, List.sum_cons, List.countP_cons, ih]
    by_cases h : p r <;> simp [h]; omega

theorem sqlSum_getD (l : List Nat) : (sqlSum l).getD 0 = l.sum := by
  unfold sqlSum
  cases l <;> simp

/-- **C20 (gauges).** For every store — including the empty one — the query returns
    (number of leases whose expiry lies in the future, number whose expiry has passed), in the
    order (active, expired) in which the caller publishes them. -/
theorem C20_gauges (s : Store) (now : Nat) :
    metrics s now = some (s.countP (fun r => decide (r.expiry > now)),
                          s.countP (fun r => decide (r.expiry ≤ now))) ∧
    metricsLabelsActiveExpired = true := by
  refine ⟨?_, by decide⟩
  unfold metrics
  simp only [metricsCoalesce, if_true, sqlSum_getD]
  rw [sum_indicator s (fun r => metricsFirstCmp.eval r.expiry now),
      sum_indicator s (fun r => metricsSecondCmp.eval r.expiry now)]
  rfl

/-- every lease is counted exactly once -/
theorem C20_gauges_partition (s : Store) (now : Nat) :
    s.countP (fun r => decide (r.expiry > now)) + s.countP (fun r => decide (r.expiry ≤ now)) = s.length := by
  rw [List.length_eq_countP_add_countP (fun r => decide (r.expiry > now))]
  congr 2
  funext r
  simp

example : metrics [] 5 = some (0, 0) := by decide
example : metrics [⟨1, [1], 0, 10, []⟩, ⟨2, [2], 0, 5, []⟩, ⟨3, [3], 0, 4, []⟩] 5 = some (1, 2) := by decide

open Erbium.LeaseReport Erbium.Spec.Json in
/-- **C20 (the listing).** For every list of stored leases the body of `leases.json` is a JSON document in the sense
    of RFC 8259 (`Spec/Json.lean`: the grammar as a relation between texts and values) and it denotes
    `{"leases": [e₁, …, eₙ]}` with exactly one object per lease, in order, each carrying that lease's address,
    client identifier, start, expiry and — when the stored options have one — host name, **whatever characters the
    host name contains** (quotation marks, reverse solidus and control characters are escaped so that the text
    denotes exactly them). -/
theorem C20_listing_denotes_store (rows : List LRow) : Denotes (render rows) (listingV rows) := render_denotes rows

open Erbium.LeaseReport Erbium.Spec.Json in
/-- the value that the body denotes by `C20_listing_denotes_store` has one array element per lease -/
theorem C20_one_entry_per_lease (rows : List LRow) :
    listingV rows = .obj [("leases".toList, .arr (rows.map rowV))] ∧ (rows.map rowV).length = rows.length :=
  ⟨rfl, List.length_map _⟩

open Erbium.LeaseReport Erbium.Spec.Json in
/-- `json_string` alone: the text between the quotation marks denotes exactly the characters given — for every string -/
theorem C20_host_name_any_characters (h : List Char) : StrBody (jsonStringBody h) h := jsonStringBody_spec h

open Erbium.LeaseReport Erbium.Spec.Json in
/-- … and **only** them: the string grammar is unambiguous, so whatever a conforming reader takes the host-name text
    to denote, it is the stored host name (an injection through the host name cannot make the entry say anything else) -/
theorem C20_host_name_read_back_exactly (h s : List Char) (hs : StrBody (jsonStringBody h) s) : s = h :=
  strBody_unique hs (jsonStringBody_spec h)

open Erbium.LeaseReport Erbium.Spec.Json in
/-- numbers are written without loss: the digits are a JSON integer (no leading zero, no sign) whose value is the
    number, so two different start or expiry times never print alike -/
theorem C20_numbers_exact (a b : Nat) (h : dec a = dec b) : a = b := by
  have ha := (dec_denotes a).2.2.2
  have hb := (dec_denotes b).2.2.2
  rw [h] at ha; omega

open Erbium.LeaseReport in
/-- non-vacuity: a lease whose host name holds a quotation mark, a reverse solidus, a bell and a non-ASCII letter -/
example : render [{ ip := 3232235777, client := [1, 171], start := 5, expire := 3605, host := some ['a', '"', '\\', Char.ofNat 7, 'é'] }] =
    "{ \"leases\" : [\n { \"ip\": \"192.168.1.1\", \"client_id\": \"01:ab\", \"start\": 5, \"expire\": 3605, \"host-name\": \"a\\\"\\\\\\u0007é\" }\n]}\n".toList := by
  -- the literal as a list of characters first: decoding its UTF-8 bytes is not left to the kernel
  rw [String.toList_ofList]
  decide +kernel

end Erbium.Props.C20
