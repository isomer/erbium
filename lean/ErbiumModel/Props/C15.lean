import ErbiumModel.Lemmas.DnsRoute
/-! # C15 — DNS routes: longest matching suffix wins, regardless of order and case -/
namespace Erbium.Props.C15
open Erbium Erbium.DnsRoute

/-- the specification: label-wise, ASCII case-insensitive suffix -/
def Matches (q s : Name) : Prop := ∃ pre, lowerName q = pre ++ lowerName s

/-- the coded suffix test is the specification -/
theorem endsWith_iff (q s : Name) : endsWith q s = true ↔ Matches q s := by
  have hsuf : Matches q s ↔ lowerName s <:+ lowerName q :=
    ⟨fun ⟨p, h⟩ => ⟨p, h.symm⟩, fun ⟨p, h⟩ => ⟨p, h.symm⟩⟩
  have hdrop : lowerName s <:+ lowerName q ↔ lowerName (q.drop (q.length - s.length)) = lowerName s := by
    rw [List.suffix_iff_eq_drop, eq_comm]
    simp only [lowerName, List.length_map, List.map_drop]
  rw [hsuf, hdrop, lowerName_eq_iff, List.length_drop]
  unfold endsWith
  simp only [Bool.and_eq_true, decide_eq_true_eq]
  constructor <;> rintro ⟨h1, h2⟩ <;> exact ⟨by omega, h2⟩

/-- **C15 (longest suffix wins).** For every route table and query name the selected route owns a
    suffix that the name ends with (whole labels, ASCII case-insensitive), and no suffix of any
    route that the name ends with has more labels; nothing is selected iff no suffix matches. -/
theorem C15_longest_matching_suffix (table : List Route) (q : Name) :
    match select table q with
    | none => ∀ r ∈ table, ∀ s ∈ r.suffixes, ¬ Matches q s
    | some (i, s) =>
      (∃ r, table[i]? = some r ∧ s ∈ r.suffixes) ∧ Matches q s ∧
      ∀ r ∈ table, ∀ s' ∈ r.suffixes, Matches q s' → s'.length ≤ s.length := by
  obtain ⟨hfrom, -, hmax⟩ := foldl_stepBest q (pairs 0 table) none
  have hall : ∀ r ∈ table, ∀ s' ∈ r.suffixes, ∃ i, (i, s') ∈ pairs 0 table := by
    intro r hr s' hs'
    obtain ⟨i, hi⟩ := List.getElem?_of_mem hr
    exact ⟨i, (mem_pairs table (i, s')).mpr ⟨r, hi, hs'⟩⟩
  unfold select
  cases hsel : (pairs 0 table).foldl (stepBest q) none with
  | none =>
    intro r hr s hs hm
    obtain ⟨i, hi⟩ := hall r hr s hs
    obtain ⟨b, hb, -⟩ := hmax (i, s) hi ((endsWith_iff q s).mpr hm) _ rfl
    rw [hsel] at hb; cases hb
  | some b =>
    obtain ⟨i, s⟩ := b
    rw [hsel] at hfrom hmax
    obtain ⟨p, hmem, hp, hm⟩ := hfrom.resolve_left nofun
    cases hp
    obtain ⟨r, hr, hs⟩ := (mem_pairs table (i, s)).mp hmem
    refine ⟨⟨r, hr, hs⟩, (endsWith_iff q s).mp hm, ?_⟩
    intro r' hr' s' hs' hm'
    obtain ⟨i', hi'⟩ := hall r' hr' s' hs'
    obtain ⟨b, hb, hle⟩ := hmax (i', s') hi' ((endsWith_iff q s').mpr hm') _ rfl
    cases hb; exact hle

/-- the action taken is the action of a route owning a longest matching suffix -/
theorem route_action (table : List Route) (q : Name) (rd : Bool) :
    (route table q rd = .servfail ∧ ∀ r ∈ table, ∀ s ∈ r.suffixes, ¬ Matches q s) ∨
    ∃ r ∈ table, ∃ s ∈ r.suffixes, Matches q s ∧
      (∀ r' ∈ table, ∀ s' ∈ r'.suffixes, Matches q s' → s'.length ≤ s.length) ∧
      route table q rd = outcomeOf r.action rd := by
  have h := C15_longest_matching_suffix table q
  unfold route
  cases hsel : select table q with
  | none => rw [hsel] at h; left; exact ⟨rfl, h⟩
  | some b =>
    obtain ⟨i, s⟩ := b
    rw [hsel] at h
    obtain ⟨⟨r, hr, hs⟩, hm, hmax⟩ := h
    right
    refine ⟨r, List.mem_of_getElem? hr, s, hs, hm, hmax, ?_⟩
    simp [hr]

/-- **C15 (order independence).** Two tables that assign the same actions to the same suffixes —
    routes and suffixes written in any order, split or merged differently — give the same outcome
    for every name, provided the longest matching suffixes are not claimed by routes with
    different actions (the one case the statement leaves open). -/
theorem C15_order_independent (t1 t2 : List Route) (q : Name) (rd : Bool)
    (hsame : ∀ a s, (∃ r ∈ t1, r.action = a ∧ s ∈ r.suffixes) ↔ (∃ r ∈ t2, r.action = a ∧ s ∈ r.suffixes))
    (hunamb : ∀ r ∈ t1, ∀ s ∈ r.suffixes, ∀ r' ∈ t1, ∀ s' ∈ r'.suffixes,
      Matches q s → Matches q s' → s.length = s'.length → r.action = r'.action) :
    route t1 q rd = route t2 q rd := by
  rcases route_action t1 q rd with ⟨h1, hn1⟩ | ⟨r1, hr1, s1, hs1, hm1, hmax1, ho1⟩
  · rcases route_action t2 q rd with ⟨h2, _⟩ | ⟨r2, hr2, s2, hs2, hm2, _, _⟩
    · rw [h1, h2]
    · obtain ⟨r, hr, _, hs⟩ := (hsame r2.action s2).mpr ⟨r2, hr2, rfl, hs2⟩
      exact absurd hm2 (hn1 r hr s2 hs)
  · rcases route_action t2 q rd with ⟨_, hn2⟩ | ⟨r2, hr2, s2, hs2, hm2, hmax2, ho2⟩
    · obtain ⟨r, hr, _, hs⟩ := (hsame r1.action s1).mp ⟨r1, hr1, rfl, hs1⟩
      exact absurd hm1 (hn2 r hr s1 hs)
    · -- both selected suffixes are longest matching ones; bring r2's pair into t1
      obtain ⟨r2', hr2', ha2', hs2'⟩ := (hsame r2.action s2).mpr ⟨r2, hr2, rfl, hs2⟩
      obtain ⟨r1', hr1', _, hs1'⟩ := (hsame r1.action s1).mp ⟨r1, hr1, rfl, hs1⟩
      have hl1 : s2.length ≤ s1.length := hmax1 r2' hr2' s2 hs2' hm2
      have hl2 : s1.length ≤ s2.length := hmax2 r1' hr1' s1 hs1' hm1
      have := hunamb r1 hr1 s1 hs1 r2' hr2' s2 hs2' hm1 hm2 (by omega)
      rw [ho1, ho2, this, ha2']

/-- **C15 (case independence).** Changing the ASCII case of any letters of the query name does
    not change the selection. -/
theorem C15_case_independent (table : List Route) (q q' : Name) (h : lowerName q = lowerName q') :
    select table q = select table q' := by
  have he (s : Name) : endsWith q s = endsWith q' s :=
    Bool.eq_iff_iff.mpr (by rw [endsWith_iff, endsWith_iff, Matches, Matches, h])
  unfold select
  congr 1
  funext best p
  unfold stepBest
  rw [he]

/-- **C15 (actions).** forge-nxdomain ⇒ NXDOMAIN and never upstream; forward ⇒ only that route's
    first server and only with RD; (no route ⇒ SERVFAIL is `route_action`). -/
theorem C15_actions (a : Action) (rd : Bool) :
    (a = .forgeNxDomain → outcomeOf a rd = .nxdomain) ∧
    (∀ servers, a = .forward servers → rd = false → outcomeOf a rd = .refused) ∧
    (∀ s ss, a = .forward (s :: ss) → rd = true → outcomeOf a rd = .upstream s) ∧
    (∀ srv, outcomeOf a rd = .upstream srv → ∃ ss, a = .forward (srv :: ss) ∧ rd = true) := by
  refine ⟨?_, ?_, ?_, ?_⟩
  · rintro rfl; rfl
  · rintro servers rfl rfl; rfl
  · rintro s ss rfl rfl; rfl
  · intro srv h
    cases a with
    | forgeNxDomain => simp [outcomeOf] at h
    | forward servers =>
      cases rd <;> cases servers <;> simp [outcomeOf] at h
      rename_i s ss; subst h; exact ⟨ss, rfl, rfl⟩

/-! Non-vacuity: `INVALID` under a forge-nxdomain route for `invalid`, with a catch-all forward route -/
def exTable : List Route := [⟨[[]], .forward [8]⟩ , ⟨[[[105, 110, 118, 97, 108, 105, 100]]], .forgeNxDomain⟩]
example : route exTable [[120], [73, 78, 86, 65, 76, 73, 68]] true = .nxdomain := by decide
example : route exTable [[120], [99, 111, 109]] true = .upstream 8 := by decide
example : route exTable.reverse [[120], [73, 78, 86, 65, 76, 73, 68]] true = .nxdomain := by decide

end Erbium.Props.C15
