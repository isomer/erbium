import ErbiumModel.Lemmas.Bucket
/-! # C16 — REFUSED replies are rate-bounded per source, yet quiet clients still get one -/
namespace Erbium.Props.C16
open Erbium Erbium.Bucket Erbium.Generated.Dns

/-- a grant never moves the bucket's "last empty" time beyond the present -/
theorem step_le_now (e now cost : Nat) (he : e ≤ now) : (step e now cost).2 ≤ now := by
  unfold step
  split
  · exact (grant_spec now e now cost (Nat.le_refl _) ‹_›).2.2
  · exact he

/-- **C16 (bounded).** For every arrival sequence (any number of queries, any costs) at one bucket
    within `[t1, t2]`, the granted volume is at most the burst `MAX_TOKENS` plus
    `TOKENS_PER_SECOND · (t2 − t1)`, provided the bucket was not in the future (`e ≤ t2`). -/
theorem C16_bucket_bounded (t1 t2 e : Nat) (ops : List (Nat × Nat)) (h12 : t1 ≤ t2) (he : e ≤ t2)
    (hops : ∀ o ∈ ops, t1 ≤ o.1 ∧ o.1 ≤ t2) :
    (run e ops).1 ≤ maxTokens + tokensPerSecond * (t2 - t1) := by
  obtain ⟨hsum, hend⟩ := run_bound t1 t2 e ops hops
  -- `cap · t1` ends at most at `t2` and starts at least at `t1 - window`
  have h0 : cap e t1 ≤ t2 := Nat.max_le.mpr ⟨he, Nat.le_trans (Nat.sub_le _ _) h12⟩
  have h2 : cap (run e ops).2 t1 ≤ (t1 - window) + window + (t2 - t1) := by omega
  have h2 := Nat.mul_le_mul_left tokensPerSecond h2
  have h1 : tokensPerSecond * (t1 - window) ≤ tokensPerSecond * cap e t1 := Nat.mul_le_mul_left _ (Nat.le_max_right _ _)
  rw [Nat.mul_add, Nat.mul_add, rate_mul_window] at h2
  omega

/-- **C16 (quiet clients are served).** If nothing was charged to the bucket for at least the
    refill period, any cost up to the capacity is granted — in particular the minimum charge of a
    REFUSED reply (`costFloor ≤ MAX_TOKENS`, checked against the constants in the source). -/
theorem C16_quiet_client_served (e now cost : Nat) (hidle : e + window ≤ now) (hc : cost ≤ maxTokens) :
    check e now cost = true := by
  rw [check_iff]
  have hcap : cap e now = now - window := Nat.max_eq_right (by omega)
  rw [hcap, show now - (now - window) = window by omega, Nat.mul_comm, rate_mul_window]
  exact ⟨Nat.sub_le _ _, hc⟩

theorem C16_floor_fits_capacity : costFloor ≤ maxTokens := by decide

/-- the charge covers every reply that is not smaller than its query (no amplification unpaid) -/
theorem C16_cost_covers_reply (replyLen queryLen : Nat) (h : queryLen ≤ replyLen) :
    replyLen ≤ cost replyLen queryLen := by
  unfold cost; omega

/-- the limiter charges exactly one of the source's two buckets or refuses and changes nothing;
    hence per source the bound is twice the per-bucket bound -/
theorem C16_limiter_charges_one (s : Nat × Nat) (now c : Nat) :
    let r := limiterStep s now c
    (r.1 = true ∧ ((r.2 = (deplete s.1 now c, s.2) ∧ check s.1 now c = true) ∨
                    (r.2 = (s.1, deplete s.2 now c) ∧ check s.2 now c = true))) ∨
    (r.1 = false ∧ r.2 = s) := by
  unfold limiterStep
  by_cases h1 : check s.1 now c = true
  · simp [h1]
  · by_cases h2 : check s.2 now c = true
    · simp [h1, h2]
    · simp [h1, h2]

/-- only REFUSED replies are ever withheld, and a good cookie exempts before any charge
    (shape of `should_ratelimit`, regenerated from the source) -/
theorem C16_only_refused_and_good_cookie_exempt :
    ratelimitOnlyRefused = true ∧ goodCookieExempt = true := by decide

/-! ### cookies: HMAC is an uninterpreted function -/
section Cookies
variable (H : List Nat → List Nat → List Nat)   -- HMAC-SHA256 key message

/-- the server cookie this server issues in the key period of `key` -/
def issued (key client sip cip : List Nat) : List Nat := H key (client ++ sip ++ cip)

/-- `validate_cookie_keys`: Good iff the server part equals the HMAC under the current key, or
    failing that under the previous key -/
def good (cur prev client server sip cip : List Nat) : Bool :=
  server == issued H cur client sip cip || server == issued H prev client sip cip

/-- **C16 (cookies).** A server cookie exempts exactly when it is the cookie this server issued
    for that same client cookie, client address and server address in the current or the previous
    key period. -/
theorem C16_cookie_exempt_iff (cur prev client server sip cip : List Nat) :
    good H cur prev client server sip cip = true ↔
      server = issued H cur client sip cip ∨ server = issued H prev client sip cip := by
  simp [good]

/-- under collision resistance (HMAC injective in its message for the keys in use), a cookie
    issued for one (client cookie, server address, client address) does not exempt another one
    of the same shape -/
theorem C16_cookie_not_transferable (cur prev client client' sip sip' cip cip' : List Nat)
    (hinj : ∀ k ∈ [cur, prev], ∀ k' ∈ [cur, prev], ∀ m m', H k m = H k' m' → m = m')
    (hshape : client.length = client'.length ∧ sip.length = sip'.length)
    (hne : (client, sip, cip) ≠ (client', sip', cip')) (k : List Nat) (hk : k ∈ [cur, prev]) :
    good H cur prev client' (issued H k client sip cip) sip' cip' = false := by
  have key : ∀ k', k' ∈ [cur, prev] → issued H k client sip cip ≠ issued H k' client' sip' cip' := by
    intro k' hk' heq
    have := hinj k hk k' hk' _ _ heq
    have h1 : client = client' ∧ sip ++ cip = sip' ++ cip' := by
      rw [List.append_assoc, List.append_assoc] at this
      exact List.append_inj this hshape.1
    have h2 := List.append_inj h1.2 hshape.2
    exact hne (by rw [h1.1, h2.1, h2.2])
  have h1 := key cur (by simp)
  have h2 := key prev (by simp)
  simp [good, h1, h2]

/-- after two rotations neither key of the old period is in use: an old cookie is accepted only
    if it collides with a cookie of the new periods -/
theorem C16_cookie_expires_after_two_rotations (k0 k1 k2 client sip cip : List Nat)
    (hfresh : issued H k0 client sip cip ≠ issued H k2 client sip cip ∧
              issued H k0 client sip cip ≠ issued H k1 client sip cip) :
    good H k2 k1 client (issued H k0 client sip cip) sip cip = false := by
  simp [good, hfresh.1, hfresh.2]

end Cookies

example : (run 0 [(1000, 200), (1000, 200), (1001, 200), (1100, 200)]).1 ≤ maxTokens + tokensPerSecond * (1100 - 1000) := by decide

/-- **C16 (no default key).** `CookieKeys::new` rotates the all-zero default keys twice, so from the first query on both
    the current and the previous key are random: a cookie computed under the all-zero key (which anyone can compute,
    for any claimed address) is never accepted, also not before the first scheduled rotation (extracted). -/
theorem C16_no_default_cookie_key : Generated.Dns.cookieKeyRotationsAtStart = 2 := by decide

end Erbium.Props.C16
