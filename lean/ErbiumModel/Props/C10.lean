import ErbiumModel.Lemmas.Pool
import ErbiumModel.Generated.Dhcp
import ErbiumModel.Lemmas.Resp
/-! # C10 — lease times are bounded and never outlive the server's own record -/
namespace Erbium.Props.C10
open Erbium Erbium.Pool

/-- **C10 (bounds).** Whatever duration a selection step proposes (any renewal rhythm: `3·(now −
    start)`, `2·(expiry − start)`, or 0 for a fresh address), the advertised lease lies within the
    configured bounds. -/
theorem C10_bounds (d lo hi : Nat) (h : lo ≤ hi) : lo ≤ clamp d lo hi ∧ clamp d lo hi ≤ hi := by
  unfold clamp; omega

/-- the defaults extracted from the source are 5 minutes and 24 hours and are consistent -/
theorem C10_default_bounds :
    Generated.Dhcp.defaultMinLease = 300 ∧ Generated.Dhcp.defaultMaxLease = 86400 ∧
    Generated.Dhcp.defaultMinLease ≤ Generated.Dhcp.defaultMaxLease := by decide

example : clamp 0 300 86400 = 300 ∧ clamp 900 300 86400 = 900 ∧ clamp (3 * 40000) 300 86400 = 86400 := by decide

/-- **C10 (bounds, with the rule that an existing lease is never shortened).** The duration `allocate_address`
    records and advertises — the clamped duration, raised to what is left of the lease the client already has for the
    address, capped by the maximum in force — lies within the bounds, whatever was left. -/
theorem C10_lease_bounds (d lo hi rem : Nat) (h : lo ≤ hi) :
    lo ≤ leaseFor d lo hi rem ∧ leaseFor d lo hi rem ≤ hi := by
  unfold leaseFor clamp; omega

/-- **C10/C01 (what was acknowledged is not undercut).** If what is left of the client's lease is within the maximum
    in force (always, unless the configured maximum was lowered meanwhile), the new record ends no earlier than the
    old one: a later reply to the same client — an offer it need not take up, an early renewal — never moves the
    end of its lease earlier. -/
theorem C10_never_shortens (d lo hi rem : Nat) (h : rem ≤ hi) : rem ≤ leaseFor d lo hi rem := by
  unfold leaseFor clamp; omega

example : leaseFor 0 300 86400 600 = 600 ∧ leaseFor 0 300 86400 0 = 300 ∧ leaseFor 900 300 86400 100 = 900 ∧
    leaseFor 0 300 86400 100000 = 86400 := by decide

/-- **C10 (record).** The row written for a grant starts at the (second) clock read, which is not
    before the request was received, lasts exactly the advertised time and therefore does not
    expire before `t + L`; no other row is touched. -/
theorem C10_record (st : State) (c : Client) (x now' L : Nat) (opts : List Nat) (hnow : st.now ≤ now') :
    ∃ r, rowOf (grant st c x now' L opts).rows x = some r ∧ r.client = c ∧
      r.expiry - r.start = L ∧ st.now ≤ r.start ∧ r.expiry ≥ st.now + L ∧
      (grant st c x now' L opts).belief c x = some r.expiry :=
  ⟨_, (rowOf_grant ..).trans (if_pos rfl), rfl, Nat.add_sub_cancel_left .., hnow,
    Nat.add_le_add_right hnow L, if_pos ⟨rfl, rfl⟩⟩

/-- in store terms: after the grant the row of the address ends no earlier than the client's previous row did -/
theorem C10_record_end_monotone (s : Store) (c : Client) (x now' d lo hi : Nat) (opts : List Nat) (r : Row)
    (hr : rowOf s x = some r) (hc : r.client = c) (hrem : r.expiry - now' ≤ hi) (hnow : now' ≤ r.expiry) :
    r.expiry ≤ (grantRow c x now' (leaseFor d lo hi (remainingOf s c x now')) opts).expiry := by
  have hrm : remainingOf s c x now' = r.expiry - now' := by
    unfold remainingOf; rw [hr]; simp [hc]
  have := C10_never_shortens d lo hi (r.expiry - now') hrem
  rw [hrm]; simp only [grantRow]; omega

/-- the `as u32` casts of `start` and `expiry` are exact until 2106 (`now' + hi < 2^32`) -/
theorem C10_no_wrap (now' L hi : Nat) (hL : L ≤ hi) (h : now' + hi < 2 ^ 32) :
    now' % 2 ^ 32 = now' ∧ (now' + L) % 2 ^ 32 = now' + L := by
  constructor <;> apply Nat.mod_eq_of_lt <;> omega

/-- **C10 (renewal rhythm).** In every reachable state every stored row satisfies
    `start ≤ expiry` (so the `u32` subtraction of step 2 never underflows), for every history. -/
theorem C10_start_le_expiry {st} (h : Reach st) : ∀ r ∈ st.rows, r.start ≤ r.expiry := by
  induction h with
  | init now => intro r hr; cases hr
  | tick n _ ih => exact ih
  | grant c req pool x ty d now' lo hi opts _ _ _ ih =>
    intro r hr
    rcases mem_put.mp hr with rfl | ⟨hr, _⟩
    · exact Nat.le_add_right ..
    · exact ih r hr
  | restart _ ih => exact ih

/-- **C10 (present).** Every OFFER and every ACK produced by `handle_pkt` carries option 51 with
    the granted lease time, within the default bounds, equal to the recorded duration. -/
theorem C10_offer_and_ack_carry_lease_time {cfg req ids st r st'}
    (h : Dhcp.Handles cfg req ids st (some r) st') :
    ∃ L, Dhcp.lookupOpt r.options 51 = some (Dhcp.ser32 (L % 2 ^ 32)) ∧
      Generated.Dhcp.defaultMinLease ≤ L ∧ L ≤ Generated.Dhcp.defaultMaxLease ∧
      ∃ row, rowOf st'.rows r.yiaddr = some row ∧ row.expiry - row.start = L := by
  cases h with
  | grant c rq pool resp isReq x ty d now' blob =>
    have hb := C10_lease_bounds d _ _ (remainingOf st.rows c x now') (C10_default_bounds.2.2)
    exact ⟨_, by rw [Dhcp.reply_options, if_pos rfl], hb.1, hb.2, _, (rowOf_grant ..).trans (if_pos rfl),
      Nat.add_sub_cancel_left ..⟩

end Erbium.Props.C10
