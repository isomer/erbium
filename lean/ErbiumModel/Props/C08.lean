import ErbiumModel.Lemmas.Acl
import ErbiumModel.Lemmas.Digits
import ErbiumModel.Generated.Acl
/-! # C08 — ACLs are enforced, first match wins, on DNS recursion and all HTTP endpoints -/
namespace Erbium.Props.C08
open Erbium Erbium.Acl

/-- the written prefix, host bits ignored: the top `len` bits agree -/
def inPrefix (w addr len ip : Nat) : Prop := ip / 2 ^ (w - len) = addr / 2 ^ (w - len)

/-- **C08 (subnet, IPv4).** For every prefix length 0..32 and *every* written address (host bits
    set or not), an IPv4 client matches exactly when it lies inside the written prefix. -/
theorem C08_subnet_v4 (addr len ip : Nat) (hl : len ≤ 32) (ha : addr < 2 ^ 32) (hi : ip < 2 ^ 32) :
    (Prefix.p4 addr len).contains (.v4 ip) = true ↔ inPrefix 32 addr len ip := by
  simp [Prefix.contains, containsW_iff 32 addr len ip ha hi, inPrefix]

/-- **C08 (subnet, IPv6).** -/
theorem C08_subnet_v6 (addr len ip : Nat) (hl : len ≤ 128) (ha : addr < 2 ^ 128) (hi : ip < 2 ^ 128) :
    (Prefix.p6 addr len).contains (.v6 ip) = true ↔ inPrefix 128 addr len ip := by
  simp [Prefix.contains, containsW_iff 128 addr len ip ha hi, inPrefix]

/-- **C08 (IPv4-mapped client).** An IPv4 client seen as `::ffff:a.b.c.d` matches an IPv4 prefix
    exactly when `a.b.c.d` lies inside it; any other IPv6 address never matches an IPv4 prefix. -/
theorem C08_mapped_client (addr len ip4 : Nat) (hl : len ≤ 32) (ha : addr < 2 ^ 32) (hi : ip4 < 2 ^ 32) :
    (Prefix.p4 addr len).contains (.v6 (mappedBase + ip4)) = true ↔ inPrefix 32 addr len ip4 := by
  have h : (mappedBase + ip4) / 2 ^ 32 = 0xffff ∧ (mappedBase + ip4) % 2 ^ 32 = ip4 := Digits.div_mod_digit 0xffff hi
  simp [Prefix.contains, h.1, h.2, containsW_iff 32 addr len ip4 ha hi, inPrefix]

theorem C08_unmapped_v6_never_matches_v4 (addr len ip : Nat) (h : ip / 2 ^ 32 ≠ 0xffff) :
    (Prefix.p4 addr len).contains (.v6 ip) = false := by
  simp [Prefix.contains, h]

theorem C08_unix_matches_no_subnet (p : Prefix) : p.contains .unix = false := by
  cases p <;> rfl

/-- **C08 (first match wins).** If no earlier rule matches the client, the first rule that does
    decides: granted iff that rule has the permission, otherwise "not authorised" — whatever the
    later rules say. -/
theorem C08_first_match_decides (pre post : List Rule) (r : Rule) (p : Permission) (a : Addr) (perm : Perm)
    (hpre : ∀ q ∈ pre, q.check a = none) (hr : r.check a = some p) :
    requirePermission (pre ++ r :: post) a perm = if p.has perm then .ok else .notAuthorised := by
  unfold requirePermission
  have : (pre ++ r :: post).findSome? (fun r => r.check a) = some p := by
    rw [List.findSome?_append]
    have hn : pre.findSome? (fun r => r.check a) = none := by
      rw [List.findSome?_eq_none_iff]; exact hpre
    simp [hn, hr]
  rw [this]

theorem C08_no_match_refused (acl : List Rule) (a : Addr) (perm : Perm)
    (h : ∀ q ∈ acl, q.check a = none) : requirePermission acl a perm = .notAuthenticated := by
  unfold requirePermission
  have : acl.findSome? (fun r => r.check a) = none := by
    rw [List.findSome?_eq_none_iff]; exact h
  rw [this]

/-- granted ⇔ some rule matches, it is the first one that does, and it has the permission -/
theorem C08_granted_iff (acl : List Rule) (a : Addr) (perm : Perm) :
    requirePermission acl a perm = .ok ↔
      ∃ pre r post p, acl = pre ++ r :: post ∧ (∀ q ∈ pre, q.check a = none) ∧ r.check a = some p ∧ p.has perm = true := by
  constructor
  · intro h
    unfold requirePermission at h
    cases hf : acl.findSome? (fun r => r.check a) with
    | none => simp [hf] at h
    | some p =>
      simp only [hf] at h
      obtain ⟨pre, r, post, hacl, hr, hpre⟩ := List.findSome?_eq_some_iff.mp hf
      refine ⟨pre, r, post, p, hacl, ?_, hr, ?_⟩
      · intro q hq; exact hpre q hq
      · by_cases hp : p.has perm = true
        · exact hp
        · simp [hp] at h
  · rintro ⟨pre, r, post, p, rfl, hpre, hr, hp⟩
    rw [C08_first_match_decides pre post r p a perm hpre hr]; simp [hp]

/-- a rule's conditions are a conjunction: subnet list (any member) AND unix flag -/
theorem C08_rule_conditions (r : Rule) (a : Addr) :
    (r.check a).isSome = true ↔
      (∀ ss, r.subnet = some ss → ∃ s ∈ ss, s.contains a = true) ∧
      (∀ u, r.unix = some u → (a = .unix ↔ u = true)) := by
  unfold Rule.check
  cases hs : r.subnet <;> cases hu : r.unix <;> simp
  · rename_i u; cases u <;> simp
  · rename_i ss u; cases u <;> simp

/-- **C08 (HTTP).** Every arm of the HTTP router serves its content only behind the permission the
    documentation assigns to that path (table regenerated from `serve_request` on every run). -/
theorem C08_http_arms_guarded :
    Generated.Acl.httpArms =
      [("GET", "/", some .http), ("GET", "/metrics", some .httpMetrics),
       ("GET", "/api/v1/leases.json", some .httpLeases), ("*", "*", some .httpLeases)] := by
  decide

/-- **C08 (DNS).** The DNS entry point checks dns-recursion first and returns on refusal, so a
    refused query reaches neither the router, the cache nor an upstream server. -/
theorem C08_dns_acl_before_everything : Generated.Acl.dnsAclFirst = true := by decide

example : (Prefix.p4 0xc0000201 24).contains (.v4 0xc00002fe) = true := by decide
example : (Prefix.p4 0xc0000201 24).contains (.v6 (mappedBase + 0xc00002fe)) = true := by decide
example : requirePermission
    [⟨some [.p4 0x0a000000 8], none, ⟨false, true, false, false⟩⟩, ⟨none, none, ⟨true, true, true, true⟩⟩]
    (.v4 0x0a010203) .dnsRecursion = .notAuthorised := by decide

/-- **The subtraction `prefixlen - 96` in `Prefix6::contains(Ipv4Addr)` cannot underflow**: the
    network only has the `::ffff:a.b.c.d` shape when the prefix is at least 96 bits long (a shorter
    mask clears bit 32, the lowest of the sixteen one-bits). -/
theorem C08_mapped_prefix_no_underflow (addr len : Nat) (hl : len ≤ 128) (ha : addr < 2 ^ 128)
    (h : (addr &&& netmask 128 len) / 2 ^ 32 = 0xffff) : 96 ≤ len := by
  have h32 : (addr &&& netmask 128 len).testBit 32 = true := by
    rw [← Nat.zero_add 32, ← Nat.testBit_div_two_pow, h]; rfl
  rw [Nat.testBit_and, netmask_testBit] at h32
  simp only [Bool.and_eq_true, decide_eq_true_eq] at h32
  omega

/-- **C08 (IPv4 client against a mapped IPv6 prefix).** A rule written `::ffff:a.b.c.d/(96+n)` matches
    an IPv4 client exactly when the client lies inside `a.b.c.d/n`. -/
theorem C08_mapped_prefix (a4 n ip : Nat) (hn : n ≤ 32) (ha : a4 < 2 ^ 32) (hi : ip < 2 ^ 32) :
    (Prefix.p6 (mappedBase + a4) (96 + n)).contains (.v4 ip) = true ↔ inPrefix 32 a4 n ip := by
  have haddr : mappedBase + a4 < 2 ^ 128 := by unfold mappedBase; omega
  -- the network is ::ffff:(a4 with its low 32-n bits cleared)
  have hlow : a4 / 2 ^ (32 - n) * 2 ^ (32 - n) < 2 ^ 32 := Nat.lt_of_le_of_lt (Nat.div_mul_le_self _ _) ha
  have hnet : (mappedBase + a4) &&& netmask 128 (96 + n) = 0xffff * 2 ^ 32 + a4 / 2 ^ (32 - n) * 2 ^ (32 - n) := by
    rw [and_netmask _ _ _ haddr, show 128 - (96 + n) = 32 - n by omega]
    exact Digits.clear_low_add 0xffff a4 (Nat.sub_le _ _)
  have h1 := Digits.div_mod_digit 0xffff hlow
  simp only [Prefix.contains, hnet, h1.1, h1.2, if_true, show 96 + n - 96 = n by omega]
  rw [containsW_iff 32 _ n ip hlow hi, decide_eq_true_eq, inPrefix, Nat.mul_div_cancel _ (Nat.two_pow_pos _)]

end Erbium.Props.C08
