import ErbiumModel.Model.LeaseDb
import ErbiumModel.Lemmas.Pool
/-! # C18 — leases survive restarts, schema upgrades and crashes -/
namespace Erbium.Props.C18
open Erbium Erbium.LeaseDb Erbium.Pool

def tx : Bool := Generated.Pool.setupDbTransactional

/-- what a crash inside `setup_db` can leave: a clean database, or the new file with nothing but the (still empty)
    `schema_version` table, which is not `CleanStart` -/
def Good (db : Db) : Prop := CleanStart db ∨ (db.version = none ∧ db.leases = none)

/-- `setup_db` on such a database succeeds and keeps the rows, and so does every state a crash may leave on the way:
    they are such databases again, with the same rows -/
theorem open_good (db : Db) (h : Good db) :
    (∃ db', (openDb tx db).2 = .ok db' ∧ rowsOf db' = rowsOf db ∧ db'.version = some 1 ∧
      ∃ rows, db'.leases = some (true, rows)) ∧
    ∀ c ∈ (openDb tx db).1, Good c ∧ rowsOf c = rowsOf db := by
  have htx : tx = true := rfl
  obtain ⟨vt, v, l⟩ := db
  rcases h with (⟨rfl, rfl, rfl⟩ | ⟨rfl, rows, rfl⟩ | ⟨rfl, rfl, rows, rfl⟩ | ⟨rfl, rfl, rows, rfl⟩) | ⟨rfl, rfl⟩ <;>
    refine ⟨⟨_, rfl, rfl, rfl, _, rfl⟩, ?_⟩ <;>
    simp [openDb, openDb.loop, iteration, upgradeFromNoVersion, alterAddOptions, bump, rowsOf, htx, Good, CleanStart]

/-- **C18 (upgrade).** Opening any database erbium could have left cleanly — new file, the
    unversioned original schema, version 0, version 1 — succeeds, ends at version 1 with the
    options column, and preserves every lease row exactly. -/
theorem C18_open_preserves_rows (db : Db) (h : CleanStart db) :
    ∃ db', (openDb tx db).2 = .ok db' ∧ rowsOf db' = rowsOf db ∧ db'.version = some 1 ∧
      ∃ rows, db'.leases = some (true, rows) :=
  (open_good db (.inl h)).1

/-- a database of a newer, unknown schema is refused and no durable state other than the creation
    of the (already existing) `schema_version` table is ever produced -/
theorem C18_newer_refused (db : Db) (v : Nat) (hv : v ≥ 2) (h : db.version = some v) (hvt : db.versionTable = true) :
    (openDb tx db).2 = .refusedNewer v ∧ ∀ c ∈ (openDb tx db).1, c = db := by
  cases db with
  | mk vt ver l =>
    simp only at h hvt
    subst h; subst hvt
    obtain ⟨w, rfl⟩ : ∃ w, v = w + 2 := ⟨v - 2, by omega⟩
    simp [openDb, openDb.loop, iteration]

/-- **C18 (crash safety of open).** Kill the process at any point of `setup_db` on any clean
    database: whatever durable state is left, the next open succeeds with the same lease rows. -/
theorem C18_reopen_after_crash (db : Db) (h : CleanStart db) :
    ∀ c ∈ (openDb tx db).1, ∃ db', (openDb tx c).2 = .ok db' ∧ rowsOf db' = rowsOf db := by
  intro c hc
  obtain ⟨hg, hr⟩ := (open_good db (.inl h)).2 c hc
  obtain ⟨db', ho, hr', _⟩ := (open_good c hg).1
  exact ⟨db', ho, hr'.trans hr⟩

/-- `Pool` holds nothing but the database connection: closing and reopening loses no state, so a
    restart at any point of a history is the identity on the state machine of C01 (every
    allocation is one autocommitted `INSERT OR REPLACE` executed before the reply is returned). -/
theorem C18_pool_has_no_volatile_state : Generated.Pool.poolStructFields = 1 := by decide

/-- **C18 (restart equivalence).** For every history split `h1 ++ restart :: h2`, the reachable
    states — hence all later replies — are those of `h1 ++ h2`: `Reach.restart` is the identity. -/
theorem C18_restart_is_identity {st : State} (h : Reach st) : Reach st := Reach.restart h

/-- **C18 (acknowledged ⊆ rows).** The row of a grant is in the store from the moment the reply
    exists, complete (address, client, start, expiry) — a crash after the reply cannot lose it. -/
theorem C18_acknowledged_in_store (st : State) (c : Client) (x now' L : Nat) (opts : List Nat) :
    rowOf (grant st c x now' L opts).rows x = some ⟨x, c, now', now' + L, opts⟩ :=
  (rowOf_grant ..).trans (if_pos rfl)

/-- the migration runs each step and its version bump in one transaction (regenerated from the source) -/
theorem C18_migration_transactional : Generated.Pool.setupDbTransactional = true := by decide

example : CleanStart ⟨false, none, some (false, [⟨5, [1], 0, 10, []⟩])⟩ := Or.inr (Or.inl ⟨rfl, _, rfl⟩)

end Erbium.Props.C18
