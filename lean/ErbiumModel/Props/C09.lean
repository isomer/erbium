import ErbiumModel.Lemmas.Select
/-! # C09 — a client keeps its address; refusal only on exhaustion -/
namespace Erbium.Props.C09
open Erbium Erbium.Pool

/-- `c` holds an unexpired lease on `x` (the stored row; by C01 this is what `c` was told) -/
def heldBy (s : Store) (now : Nat) (c : Client) (x : Nat) : Prop :=
  ∃ r, rowOf s x = some r ∧ r.client = c ∧ r.expiry > now

/-- **C09 (1).** If the client holds an unexpired lease on some address of the pool it is served
    from, every outcome the server may produce gives it an address it holds in that pool, and the
    one it names if it names one it holds. -/
theorem C09_keeps_address {s : Store} {now : Nat} {c : Client} {req : Option Nat} {pool : List Nat}
    (huniq : Uniq s) (hA : ∃ x ∈ pool, heldBy s now c x) {o : Outcome}
    (ho : o ∈ allowed s now c req pool) :
    ∃ x ty d, o = .ok x ty d ∧ x ∈ pool ∧ heldBy s now c x ∧
      (∀ q, req = some q → q ∈ pool → heldBy s now c q → x = q) := by
  obtain ⟨x0, hx0, r0, hr0, hc0, he0⟩ := hA
  have ⟨hm0, ha0⟩ := rowOf_mem hr0
  have hne := step1_nonempty req hm0 hc0 he0 (ha0 ▸ hx0)
  have ho1 : o ∈ step1 s now c req pool := by
    unfold allowed at ho
    simpa [hne] using ho
  obtain ⟨r, hb, rfl, hr, hp, hc, he⟩ := step1_sound ho1
  refine ⟨r.addr, .reusing, dur1 now r, rfl, hp, ⟨r, huniq r hr, hc, he⟩, ?_⟩
  rintro q rfl hqp ⟨rq, hrq, hcq, heq⟩
  have ⟨hmq, haq⟩ := rowOf_mem hrq
  exact bests_req hb ⟨rq, mem_own1.mpr ⟨hmq, haq ▸ hqp, hcq, heq⟩, haq⟩

/-- **C09 (2).** A request is refused for lack of addresses only when every address of the pool
    is held, unexpired, by some *other* client. -/
theorem C09_refusal_only_when_exhausted {s : Store} {now : Nat} {c : Client} {req : Option Nat}
    {pool : List Nat} (ho : Outcome.noAddress ∈ allowed s now c req pool) :
    ∀ x ∈ pool, ∃ r, rowOf s x = some r ∧ r.client ≠ c ∧ r.expiry > now := by
  obtain ⟨h1, hall⟩ := allowed_noAddress ho
  intro x hx
  obtain ⟨r, hr, he⟩ := inUse_iff.mp (hall x hx)
  refine ⟨r, hr, fun hc => ?_, he⟩
  -- a row of its own would have been found by step 1
  have ⟨hm, ha⟩ := rowOf_mem hr
  have := step1_nonempty req hm hc he (ha ▸ hx)
  rw [h1] at this; cases this

/-- steps of *other* clients and the passage of time, while `c`'s lease on `x` stays unexpired -/
inductive Others (c : Client) (x E : Nat) : State → State → Prop
  | refl (st) : Others c x E st st
  | tick {st st'} (n : Nat) : Others c x E st st' → st'.now + n < E → Others c x E st (tick st' n)
  | grant {st st'} (b : Client) (req : Option Nat) (pool : List Nat) (y : Nat) (ty : LType)
      (d now' L : Nat) (opts : List Nat) : Others c x E st st' → b ≠ c →
      Outcome.ok y ty d ∈ allowed st'.rows st'.now b req pool → st'.now ≤ now' → now' < E →
      Others c x E st (Pool.grant st' b y now' L opts)

theorem others_keeps_row {c : Client} {x E : Nat} {st st' : State} (h : Others c x E st st')
    (hu : Uniq st.rows) (hr : ∃ r, rowOf st.rows x = some r ∧ r.client = c ∧ r.expiry = E)
    (hnow : st.now < E) :
    Uniq st'.rows ∧ (∃ r, rowOf st'.rows x = some r ∧ r.client = c ∧ r.expiry = E) ∧ st'.now < E := by
  induction h with
  | refl => exact ⟨hu, hr, hnow⟩
  | tick n _ hlt ih => exact ⟨ih.1, ih.2.1, by simpa [Pool.tick] using hlt⟩
  | grant b req pool y ty d now' L opts _ hbc ho hle hlt ih =>
    obtain ⟨hu', ⟨r, hrx, hrc, hre⟩, hn'⟩ := ih
    have hxy : x ≠ y := by
      rintro rfl
      exact hbc (((allowed_sound hu' ho).2 r hrx (by omega)).symm.trans hrc)
    exact ⟨uniq_put hu', ⟨r, by rw [rowOf_grant, if_neg hxy]; exact hrx, hrc, hre⟩, hlt⟩

/-- **C09 (3).** The address acknowledged after an offer is the address that was offered: after a
    grant of `x` to `c` (expiry `E`), whatever other clients do and however much time passes
    before `E`, a request by `c` naming `x`, served from any pool containing `x`, yields `x`. -/
theorem C09_ack_after_offer {c : Client} {x now0 L : Nat} {opts : List Nat} {st0 st' : State}
    (hu : Uniq st0.rows) (hL : 0 < L)
    (h : Others c x (now0 + L) (Pool.grant st0 c x now0 L opts) st')
    {pool : List Nat} (hx : x ∈ pool) {o : Outcome}
    (ho : o ∈ allowed st'.rows st'.now c (some x) pool) :
    ∃ ty d, o = .ok x ty d := by
  have hrow : ∃ r, rowOf (Pool.grant st0 c x now0 L opts).rows x = some r ∧ r.client = c ∧ r.expiry = now0 + L :=
    ⟨_, by rw [rowOf_grant, if_pos rfl], rfl, rfl⟩
  obtain ⟨hu', ⟨r, hr, hc, he⟩, hn⟩ := others_keeps_row h (uniq_put hu) hrow (by simp [Pool.grant]; omega)
  have hheld : heldBy st'.rows st'.now c x := ⟨r, hr, hc, by omega⟩
  obtain ⟨y, ty, d, rfl, _, _, hreq⟩ := C09_keeps_address hu' ⟨x, hx, hheld⟩ ho
  have := hreq x rfl hx hheld
  subst this
  exact ⟨ty, d, rfl⟩

/-! Non-vacuity: a client with two unexpired leases, the longer one outside the pool it is now
    served from (the roaming case), keeps its in-pool address. -/
def exStore : Store := [⟨5, [1], 0, 2000, []⟩, ⟨9, [1], 0, 5000, []⟩]
example : Uniq exStore := by unfold Uniq; decide
example : ∃ x ∈ [5, 6], heldBy exStore 1000 [1] x := ⟨5, .head _, _, rfl, rfl, by decide⟩
example : allowed exStore 1000 [1] none [5, 6] = [.ok 5 .reusing 3000] := by decide

end Erbium.Props.C09
