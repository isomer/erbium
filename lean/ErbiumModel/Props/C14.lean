import ErbiumModel.Lemmas.DnsDecoded
import ErbiumModel.Lemmas.DnsTruncated
/-! # C14 — DNS messages survive decode/encode unchanged, including name compression -/
namespace Erbium.Props.C14
open Erbium Erbium.DnsWire

/-- **C14 (names).** Whatever has been written into the message so far (any sequence of names and
    records, summarised by a valid offsets tree), a name of at most 255 octets (RFC 1035; hence at most 127 labels) with labels of 1..63 octets
    that `push_compressed_domain` writes next — in full, as labels followed by a pointer, or as a
    single pointer — is read back by the decoder as exactly that name, the decoder continues
    right behind it, and the tree stays valid for the longer message. Holds for messages up to
    65535 octets. -/
theorem C14_name_roundtrip (d : Name) (hd : WfName d) (hw : wireLen d ≤ 255) (t t' : Tree) (pre bytes : Bytes)
    (h : pushName d t pre.length = some (bytes, t')) (ht : RootOK pre t)
    (hsz : pre.length + bytes.length < 65536) :
    (∀ post, getDomain (pre ++ bytes ++ post) pre.length = .ok (d, pre.length + bytes.length)) ∧
    RootOK (pre ++ bytes) t' :=
  pushName_spec d hd (nameOK_of_wireLen hd hw).2.1 hw t t' pre bytes h ht hsz

/-- **C14 (start).** `serialise_with_size` begins with an offsets tree that holds only the root, so the hypothesis
    `RootOK` of the name, record and section theorems is met when the first name is written. -/
theorem C14_initial_tree_valid (buf : Bytes) : RootOK buf root := rootOK_root buf

/-- **C14 (pointers).** Every node a pointer may target has an offset below 16384 that lies
    inside the message written so far (so pointers point backwards), and the two pointer octets
    are `0xC0 | offset >> 8`, `offset & 0xff`. -/
theorem C14_pointer_targets (node : Option Tree) (label : Label) (i : Nat) (c : Tree) (buf : Bytes) (suf : Name)
    (h : findChild node label = some (i, c)) (hv : Valid buf suf node) :
    c.data < 16384 ∧ c.data < buf.length ∧ pointerBytes c.data = some [192 + c.data / 256, c.data % 256] := by
  obtain ⟨n, rfl, hci, _, hcd⟩ := findChild_spec h
  have hok := hv c (List.mem_of_getElem? hci)
  have hp := pointerBytes_ok hcd
  have hl : ptrLimit = 16384 := by decide
  refine ⟨by omega, ?_, hp.1⟩
  obtain ⟨o, ho⟩ := (treeOK_iff.mp hok).1 hcd
  exact ho.lt_length

/-- the decoder's loop guard is the number of labels a name can have (regenerated from the source) -/
theorem C14_depth_limit : Generated.Dns.pointerDepthLimit = 127 ∧ Generated.Dns.pointerLimit = 16384 := by decide

/-- **C14 (records).** For every record type — names in owner position and inside record data alike,
    each compressed against everything written before — what `push_rr` appends at `off` is read
    back by `get_rr` as the identical record, the decoder continues right behind it and the offsets
    tree stays valid. `RROK` = the record is one the decoder can produce (field widths, data matching
    the type, names of at most 127 labels of 1..63 octets). -/
theorem C14_record_roundtrip (rr : RR) (hok : RROK rr) (t t' : Tree) (buf b : Bytes) (off : Nat)
    (h : pushRR rr t off = some (b, t')) (hat : At buf off b) (ht : RootOK (buf.take off) t)
    (hsz : off + b.length < 65536) :
    getRR buf off = .ok (rr, off + b.length) ∧ RootOK (buf.take (off + b.length)) t' :=
  let r := rr_at rr hok h hat.nil ht hsz
  ⟨r.1, r.2.1⟩

/-- **C14 (sections).** Any list of records written without truncation is read back in order. -/
theorem C14_section_roundtrip (size : Nat) (trunc : Bool) (rrs : List RR) (hok : ∀ rr ∈ rrs, RROK rr)
    (buf : Bytes) (t : Tree) (n : Nat) (buf' : Bytes) (t' : Tree) (n' : Nat)
    (h : pushSection size rrs buf t n = some (buf', t', n', false)) (ht : RootOK buf t) (hsz : buf'.length < 65536) :
    n' = n + rrs.length ∧ (∀ post, getRRs (buf' ++ post) trunc rrs.length buf.length = .ok (rrs, buf'.length)) ∧
    RootOK buf' t' :=
  section_roundtrip size trunc rrs hok h ht hsz

/-- **C14 (messages).** Every message of the shape the decoder produces (`WfPkt`), when it is written
    completely (no section stopped early) into at most 65535 octets, is decoded back to the
    identical message: header bits, opcode, extended rcode, EDNS version/size/DO/options, question
    and every record of every section. -/
theorem C14_message_roundtrip (p : Pkt) (hw : WfPkt p) (size : Nat) (wire : Bytes) (hs : 512 ≤ size)
    (hc : Complete p size wire) (hsz : wire.length < 65536) :
    serialiseWithSize p size = some wire ∧ parse wire = .ok p :=
  ⟨complete_serialise p size wire hs hw.rcode hc, message_roundtrip p hw size wire hc hsz⟩

/-- **C14 (the encoder is total).** For every message that meets exactly what the encoder asserts
    (`PktEnc`: labels of 1..63 octets, character strings below 256 octets, SOA/OPT data only under their own
    type, opaque data below 65536 octets, rcode below 4096) and every limit ≥ 512, `serialise_with_size`
    returns: no assertion, `unwrap`, `unreachable!` or overflow check below it can fire — for messages of
    any size, also when the octets written pass 64 KiB before truncation (there the recorded offsets
    saturate, `Generated.Dns.offsetSaturates`, so they are never zero and never wrap into pointer range). -/
theorem C14_encode_total (p : Pkt) (hp : PktEnc p) (size : Nat) (hs : 512 ≤ size) :
    ∃ wire, serialiseWithSize p size = some wire :=
  serialise_total (by decide) p hp size hs

/-- an offset a pointer cannot express is never recorded as one it can (beyond 16 KiB and beyond 64 KiB alike) -/
theorem C14_unreachable_offsets_stay_unreachable (off : Nat) (h : Generated.Dns.pointerLimit ≤ off) :
    Generated.Dns.pointerLimit ≤ storeOff off :=
  storeOff_ge (by decide) h (by decide)

/-- **C14 (whatever the decoder accepts).** Every message the decoder returns for a string of octets has the
    shape the round-trip theorem is about (`WfPkt`: names within 255 octets with labels of 1..63, fields within
    their wire width, record data of the variant that belongs to the type, EDNS fields consistent). -/
theorem C14_decoded_is_wellformed (b : Bytes) (hb : Octets b) (m : Pkt) (h : parse b = .ok m) : WfPkt m :=
  (parse_wf hb h).1

/-- **C14 (decode, encode).** Whatever the decoder accepts is written again without a panic, at every limit. -/
theorem C14_decoded_reencodes (b : Bytes) (hb : Octets b) (m : Pkt) (h : parse b = .ok m) (size : Nat) (hs : 512 ≤ size) :
    ∃ wire, serialiseWithSize m size = some wire :=
  let w := parse_wf hb h
  serialise_total (by decide) m (pktenc_of_wf w.1 w.2) size hs

/-- **C14 (decode, encode, decode) — the first quantifier of the property.** For every string of octets `b` the
    decoder accepts as `m`: when `m` is written completely into at most 65535 octets, those octets decode to `m`
    again — identical header bits, extended rcode, EDNS version/size/DO/options, question and records. -/
theorem C14_decoded_roundtrip (b : Bytes) (hb : Octets b) (m : Pkt) (h : parse b = .ok m)
    (size : Nat) (wire : Bytes) (hc : Complete m size wire) (hsz : wire.length < 65536) :
    parse wire = .ok m :=
  message_roundtrip m (parse_wf hb h).1 size wire hc hsz

/-- **C14 (decode, encode, decode — with no hypothesis on the encoding).** For every string of octets `b` the decoder
    accepts as `m` and every limit from 512 to 65535: the re-encoding **exists** (no panic), is **no longer than the
    limit**, and **decodes** — to `m` itself, or (only when `m` does not fit the limit) to `m` cut at a record boundary
    from the end with TC set. -/
theorem C14_decode_encode_decode (b : Bytes) (hb : Octets b) (m : Pkt) (h : parse b = .ok m)
    (size : Nat) (hs : 512 ≤ size) (hs2 : size < 65536) :
    ∃ wire, serialiseWithSize m size = some wire ∧ wire.length ≤ size ∧
      (parse wire = .ok m ∨ ∃ ka kn kd, CutAt m ka kn kd ∧ parse wire = .ok (truncated m ka kn kd)) :=
  let w := parse_wf hb h
  serialise_decodes m (pktenc_of_wf w.1 w.2) w.1 size hs hs2

/-! Non-vacuity: `www.example.com` after `example.com` is written as `www` + pointer and decodes back. -/
def ex1 : Name := [[101, 120], [99]]
def ex2 : Name := [[119], [101, 120], [99]]
example : (match pushName ex1 root 12 with
    | some (b1, t1) =>
      match pushName ex2 t1 (12 + b1.length) with
      | some (b2, _) =>
        b2 == [1, 119, 192, 12] &&
        (match getDomain (List.replicate 12 0 ++ b1 ++ b2) (12 + b1.length) with
         | .ok (n, o) => n == ex2 && o == 12 + b1.length + 4
         | .error _ => false)
      | none => false
    | none => false) = true := by decide

/-- a complete message with a compressed MX target and an EDNS record: the hypotheses of the message theorem are
    met by a concrete message (checked by evaluation of the executable model) -/
def exPkt : Pkt :=
  { qid := 7, rd := true, tc := false, aa := false, qr := true, opcode := 0, cd := false, ad := false, ra := true, rcode := 0,
    bufsize := 1232, ednsVer := some 0, ednsDo := true, qdomain := ex1, qclass := 1, qtype := 15,
    answer := [{ domain := ex1, cls := 1, rrtype := 15, ttl := 300, rdata := .mx 10 ex2 }],
    nameserver := [], additional := [{ domain := ex2, cls := 1, rrtype := 1, ttl := 60, rdata := .other [192, 0, 2, 1] }],
    edns := some [(10, [1, 2, 3, 4, 5, 6, 7, 8])] }
example : (match serialiseWithSize exPkt 512 with
    | some w => (match parse w with | .ok q => decide (q = exPkt) | .error _ => false)
    | none => false) = true := by decide +kernel

/-- the example message meets the encoder's preconditions -/
example : PktEnc exPkt := by
  refine ⟨by decide, ?_, ?_, ?_, ?_⟩
  · intro l hl; simp [exPkt, ex1] at hl; rcases hl with rfl | rfl <;> simp [WfLabel]
  · intro rr hrr; simp [exPkt] at hrr; subst hrr
    refine ⟨?_, ?_⟩
    · intro l hl; simp [ex1] at hl; rcases hl with rfl | rfl <;> simp [WfLabel]
    · show WfName ex2
      intro l hl; simp [ex2] at hl; rcases hl with rfl | rfl | rfl <;> simp [WfLabel]
  · intro rr hrr; simp [exPkt] at hrr
  · intro rr hrr; simp [exPkt] at hrr; subst hrr
    refine ⟨?_, ?_⟩
    · intro l hl; simp [ex2] at hl; rcases hl with rfl | rfl | rfl <;> simp [WfLabel]
    · show (1 : Nat) ≠ T_OPT ∧ (1 : Nat) ≠ T_SOA ∧ [192, 0, 2, 1].length < 65536
      decide

/-- the decoded-message theorems are not vacuous: the encoding of the example message is a string of octets the
    decoder accepts -/
def exWire : Bytes := (serialiseWithSize exPkt 512).getD []
example : (exWire.all (· < 256) && (match parse exWire with | .ok q => decide (q = exPkt) | .error _ => false)) = true := by
  decide +kernel

end Erbium.Props.C14
