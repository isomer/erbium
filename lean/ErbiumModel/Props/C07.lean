import ErbiumModel.Model.DnsMux
import ErbiumModel.Lemmas.Safe
import ErbiumModel.Lemmas.Keyed
import ErbiumModel.Lemmas.Digits
/-!
# C07 — each DNS query gets exactly one reply, its own (the parts that are logic)

What tokio, the kernel and the network do is not modelled; what erbium *decides* is:
which waiter a message arriving on the shared upstream TCP connection is handed to, when a UDP
exchange gives up, and which source address a reply is sent from.  Those three are proved here for
every schedule, loss pattern and address; the end-to-end rig exercises the rest.
-/
namespace Erbium.Props.C07
open Erbium.Safe Erbium.DnsMux

/-! ### the upstream TCP multiplexer, under every interleaving -/

/-- wire ids in flight are pairwise distinct -/
def Uniq (m : Mux) : Prop := (m.table.map (·.wire)).Nodup

theorem freshId_spec (m : Mux) (start fuel : Nat) (id : Nat) (h : freshId m start fuel = some id) :
    inFlight m id = false := by
  induction fuel generalizing start with
  | zero => simp [freshId] at h
  | succ n ih =>
    unfold freshId at h
    split at h
    · exact ih _ h
    · rename_i hf
      cases h
      simpa using hf

theorem not_inFlight_iff (m : Mux) (id : Nat) : inFlight m id = false ↔ id ∉ m.table.map (·.wire) := by
  unfold inFlight
  simp [List.any_eq_false]

theorem step_spec (m : Mux) (ev : Ev) (hu : Uniq m) : Post (step m ev) (fun r => Uniq r.1) := by
  cases ev with
  | submit w qid =>
    simp only [step, Generated.Net.muxFreshId, if_true]
    split
    · rename_i id hid
      exact Post.ok.mpr (List.nodup_cons.mpr ⟨(not_inFlight_iff m id).mp (freshId_spec m qid 65536 id hid), hu⟩)
    · exact Post.ok.mpr hu
  | reply id =>
    simp only [step]
    split
    · exact Post.ok.mpr (List.Nodup.sublist (List.Sublist.map _ List.filter_sublist) hu)
    · exact Post.ok.mpr hu
  | garbage => exact Post.ok.mpr hu
  | teardown => exact Post.ok.mpr List.nodup_nil

/-- **No schedule makes the multiplexer panic** (an id collision picks the next free id) **and ids stay distinct.** -/
theorem C07_mux_never_panics (m : Mux) (evs : List Ev) (hu : Uniq m) : Post (run m evs) (fun r => Uniq r.1) := by
  induction evs generalizing m with
  | nil => exact Post.ok.mpr hu
  | cons e es ih =>
    unfold run
    exact Post.bind (step_spec m e hu) fun r h1 => Post.bind (ih r.1 h1) fun _ h2 => h2

/-- what one step delivers, and to whom -/
theorem step_deliveries (m : Mux) (ev : Ev) (m' : Mux) (ds : List (Nat × Res)) (h : step m ev = .ok (m', ds)) (hu : Uniq m) :
    -- an answer goes to the waiter registered under the id the message carried, restored to the id that waiter chose
    (∀ w id q, (w, Res.answer id q) ∈ ds → ∃ e ∈ m.table, e.wire = id ∧ e.waiter = w ∧ e.orig = q ∧ ev = .reply id) ∧
    -- whoever is served leaves the table: nobody is served twice
    (∀ w r, (w, r) ∈ ds → (∃ e ∈ m.table, e.waiter = w ∧ e ∉ m'.table) ∨ (∃ q, ev = .submit w q ∧ r = .failed ∧ m' = m)) ∧
    -- everybody else stays registered exactly as before
    (∀ e ∈ m.table, e ∈ m'.table ∨ ∃ r, (e.waiter, r) ∈ ds) := by
  cases ev with
  | submit w qid =>
    simp only [step, Generated.Net.muxFreshId, if_true] at h
    split at h
    · cases h
      refine ⟨by simp, by simp, fun e he => Or.inl (List.mem_cons_of_mem _ he)⟩
    · cases h
      refine ⟨by simp, ?_, fun e he => Or.inl he⟩
      intro w' r hm
      simp only [List.mem_singleton, Prod.mk.injEq] at hm
      exact Or.inr ⟨qid, by rw [hm.1], hm.2, rfl⟩
  | reply id =>
    simp only [step] at h
    split at h
    · rename_i e he
      cases h
      obtain ⟨hem, hw⟩ := find?_key_some Entry.wire he
      refine ⟨?_, ?_, ?_⟩
      · intro w id' q hm
        simp only [List.mem_singleton, Prod.mk.injEq, Res.answer.injEq] at hm
        obtain ⟨rfl, rfl, rfl⟩ := hm
        exact ⟨e, hem, hw, rfl, rfl, rfl⟩
      · intro w r hm
        simp only [List.mem_singleton, Prod.mk.injEq] at hm
        refine Or.inl ⟨e, hem, hm.1.symm, ?_⟩
        simp [List.mem_filter, hw]
      · intro e' he'
        by_cases hww : e'.wire = id
        · -- same wire id as the served entry: by uniqueness it is that entry
          right
          cases nodup_map_inj _ _ hu he' hem (hww.trans hw.symm)
          exact ⟨_, List.mem_singleton.mpr rfl⟩
        · left
          simp [List.mem_filter, he', hww]
    · cases h
      exact ⟨by simp, by simp, fun e he => Or.inl he⟩
  | garbage =>
    simp only [step] at h; cases h
    exact ⟨by simp, by simp, fun e he => Or.inl he⟩
  | teardown =>
    simp only [step] at h; cases h
    refine ⟨?_, ?_, ?_⟩
    · intro w id q hm
      simp only [List.mem_map, Prod.mk.injEq] at hm
      obtain ⟨e, _, _, hcontra⟩ := hm
      cases hcontra
    · intro w r hm
      simp only [List.mem_map, Prod.mk.injEq] at hm
      obtain ⟨e, he, hw, _⟩ := hm
      exact Or.inl ⟨e, he, hw, by simp⟩
    · intro e he
      exact Or.inr ⟨.failed, List.mem_map.mpr ⟨e, he, rfl⟩⟩

/-- a tear-down answers every waiting query (with a failure) and leaves nobody behind -/
theorem C07_teardown_serves_everybody (m : Mux) :
    ∃ ds, step m .teardown = .ok ({ table := [] }, ds) ∧ ∀ e ∈ m.table, (e.waiter, Res.failed) ∈ ds := by
  refine ⟨_, rfl, ?_⟩
  intro e he
  exact List.mem_map.mpr ⟨e, he, rfl⟩

/-! ### UDP retransmissions: bounded in number and in time -/

theorem timeouts_length (n t : Nat) (js : List Nat) : (timeouts n t js).length = n := by
  induction n generalizing t js with
  | zero => rfl
  | succ n ih => simp [timeouts, ih]

theorem worst_mono (n : Nat) {t t' : Nat} (h : t ≤ t') : worst n t ≤ worst n t' := by
  induction n generalizing t t' with
  | zero => exact Nat.le_refl _
  | succ n ih =>
    exact Nat.add_le_add h (ih (Nat.add_le_add (Nat.add_le_add h (Nat.div_le_div_right h)) (Nat.sub_le_sub_right h 1)))

/-- every timeout drawn is positive, so the jitter range `0..timeout` is never empty -/
theorem timeouts_positive (n t : Nat) (js : List Nat) (ht : 0 < t) : ∀ x ∈ timeouts n t js, 0 < x := by
  induction n generalizing t js with
  | zero => simp [timeouts]
  | succ n ih =>
    intro x hx
    simp only [timeouts, List.mem_cons] at hx
    rcases hx with rfl | hx
    · exact ht
    · exact ih (t + t / 2 + js.headD 0) js.tail (by omega) x hx

/-- jitters respect `jitter < timeout` at each step -/
def JittersOk : Nat → Nat → List Nat → Prop
  | 0, _, _ => True
  | n + 1, t, js => js.headD 0 < t ∧ JittersOk n (t + t / 2 + js.headD 0) js.tail

theorem total_le_worst (n t : Nat) (js : List Nat) (hj : JittersOk n t js) : (timeouts n t js).sum ≤ worst n t := by
  induction n generalizing t js with
  | zero => simp [timeouts, worst]
  | succ n ih =>
    simp only [timeouts, worst, List.sum_cons]
    obtain ⟨h1, h2⟩ := hj
    have := ih _ _ h2
    have hm : worst n (t + t / 2 + js.headD 0) ≤ worst n (t + t / 2 + (t - 1)) := worst_mono n (by omega)
    omega

/-- **A silent upstream costs at most `retryLimit + 1` transmissions and 50.734 s of waiting** (then
    `Timeout`, which `dns/mod.rs` turns into SERVFAIL), whatever the jitter and whatever the adaptive
    initial timeout has become (it is clamped to `[MIN, MAX]`). -/
theorem C07_silent_upstream_bounded (t0 : Nat) (js : List Nat) (ht : t0 ≤ Generated.Dns.maxDnsTimeoutMs)
    (hj : JittersOk (transmissions Generated.Dns.retryLimit) t0 js) :
    (timeouts (transmissions Generated.Dns.retryLimit) t0 js).length = Generated.Dns.retryLimit + 1 ∧
    (timeouts (transmissions Generated.Dns.retryLimit) t0 js).sum ≤ 50734 := by
  refine ⟨timeouts_length _ _ _, ?_⟩
  calc (timeouts (transmissions Generated.Dns.retryLimit) t0 js).sum
      ≤ worst (transmissions Generated.Dns.retryLimit) t0 := total_le_worst _ _ _ hj
    _ ≤ worst (transmissions Generated.Dns.retryLimit) Generated.Dns.maxDnsTimeoutMs := worst_mono _ ht
    _ = 50734 := by decide

/-- the adaptive timeout stays within its bounds whatever the measured durations were, and is positive -/
theorem C07_adaptive_timeout_clamped (x : Nat) :
    Generated.Dns.minDnsTimeoutMs ≤ clamp x ∧ clamp x ≤ Generated.Dns.maxDnsTimeoutMs ∧ 0 < clamp x := by
  unfold clamp
  have h1 : Generated.Dns.minDnsTimeoutMs = 300 := rfl
  have h2 : Generated.Dns.maxDnsTimeoutMs = 2000 := rfl
  rw [h1, h2]
  omega

/-- whatever the measurements were, what is *stored* as the next initial timeout is within the bounds
    (so the hypothesis `t0 ≤ MAX` of `C07_silent_upstream_bounded` holds of every exchange) -/
theorem C07_stored_timeout_bounded (computed : Nat) :
    Generated.Dns.minDnsTimeoutMs ≤ storedTimeout computed ∧ storedTimeout computed ≤ Generated.Dns.maxDnsTimeoutMs := by
  unfold storedTimeout
  simp only [Generated.Net.timeoutUpdatesClamped, if_true]
  exact ⟨(C07_adaptive_timeout_clamped computed).1, (C07_adaptive_timeout_clamped computed).2.1⟩

/-- a connection opened at `now` is not torn down by either idle watchdog during its first 120 s, however old the
    timestamps of the connection it replaces -/
theorem C07_fresh_connection_survives (old : Timers) (now t : Nat) (h1 : now ≤ t) (h2 : t < now + 120) :
    watchdogFires (connect now old) t = false := by
  unfold watchdogFires connect
  simp only [Generated.Net.muxConnectResetsTimers, if_true, Generated.Net.muxIdleSeconds]
  simp; omega

/-! ### the source address of the reply -/

/-- **The address handed to `sendmsg` as source is, octet for octet in memory, the address the query
    was sent to** — on little- and big-endian hosts alike. -/
theorem C07_reply_source_image (le : Bool) (a b c d : Nat) (ha : a < 256) (hb : b < 256) (hc : c < 256) (hd : d < 256) :
    memImage le (inAddr le a b c d) = [a, b, c, d] := by
  unfold memImage inAddr
  simp only [Generated.Net.inAddrFromNeBytes, if_true]
  cases le
  · exact Digits.be4_octets a b c d ha hb hc hd
  · exact congrArg List.reverse (Digits.be4_octets d c b a hd hc hb ha)

-- two queries that drew the same id: the second gets the next free id, each reply goes to its own waiter with its own id back
example : (match run {} [.submit 1 7, .submit 2 7, .reply 8, .reply 7, .reply 7] with
    | .ok (m, ds) => m.table.isEmpty && ds == [(2, .answer 8 7), (1, .answer 7 7)]
    | _ => false) = true := by decide
-- without `inAddrFromNeBytes` the fold is big-endian, and on a little-endian host its image is the reversed address
example : memImage true (((127 * 256 + 0) * 256 + 0) * 256 + 1) = [1, 0, 0, 127] := by decide

end Erbium.Props.C07
