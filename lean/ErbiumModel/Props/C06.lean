import ErbiumModel.Lemmas.DnsCache
import ErbiumModel.Generated.Dns
/-! # C06 — the DNS cache never serves data past its TTL and never makes TTLs grow -/
namespace Erbium.Props.C06
open Erbium Erbium.DnsCache

/-- **C06.** After any history of resolutions (any replies, any TTLs in any section), expiry
    runs and clock advances from an empty cache, a lookup that is served from the cache
    * comes from an entry stored under exactly the queried key (name, type, DO, CD),
    * at an age `d` not exceeding the smallest TTL of the reply it holds,
    * with every TTL equal to the original minus the whole seconds elapsed, which is computed
      without underflow — so TTLs never grow, never go below zero and never wrap;
    and it never panics. -/
theorem C06_served_within_ttl (ops : List Op) (t0 : Nat) (k : Key) (r : Reply)
    (hl : lookup (runOps { cache := [], now := t0 } ops).cache k (runOps { cache := [], now := t0 } ops).now = .hit r) :
    ∃ e ∈ (runOps { cache := [], now := t0 } ops).cache,
      e.key = k ∧
      (runOps { cache := [], now := t0 } ops).now - e.birth ≤ getExpiry e.reply * ns ∧
      (∀ t ∈ allTtls e.reply, ((runOps { cache := [], now := t0 } ops).now - e.birth) / ns ≤ t) ∧
      r = { answer := e.reply.answer.map (· - ((runOps { cache := [], now := t0 } ops).now - e.birth) / ns),
            authority := e.reply.authority.map (· - ((runOps { cache := [], now := t0 } ops).now - e.birth) / ns),
            additional := e.reply.additional.map (· - ((runOps { cache := [], now := t0 } ops).now - e.birth) / ns) } := by
  rcases lookup_inv _ (inv_runOps ops t0) k with h | ⟨e, hmem, hkey, hage, hsec, h⟩
  · rw [h] at hl; cases hl
  · rw [h] at hl
    exact ⟨e, hmem, hkey, hage, fun t ht => Nat.le_trans hsec (getExpiry_le e.reply t ht), (Lookup.hit.inj hl).symm⟩

/-- the TTL subtraction can never overflow in a reachable cache -/
theorem C06_never_panics (ops : List Op) (t0 : Nat) (k : Key) :
    lookup (runOps { cache := [], now := t0 } ops).cache k (runOps { cache := [], now := t0 } ops).now ≠ .panic := by
  rcases lookup_inv _ (inv_runOps ops t0) k with h | ⟨_, _, _, _, _, h⟩ <;> rw [h] <;> nofun

/-- **C06 (expiry).** Once more than the smallest TTL has elapsed since a reply was stored, a
    lookup of that key misses (and `handle_query` then resolves upstream again). -/
theorem C06_miss_after_ttl (c : Cache) (k : Key) (e : Entry) (now : Nat)
    (hf : find c k = some e) (hlate : now > e.birth + e.lifetime) : lookup c k now = .miss := by
  unfold lookup
  simp only [hf]
  have : ¬ (e.birth + e.lifetime ≥ now) := by omega
  simp [this]

/-- replies whose smallest TTL is 0 (or that carry no record at all) are never stored -/
theorem C06_zero_ttl_not_cached (c : Cache) (k : Key) (r : Reply) (now : Nat) (h : getExpiry r = 0) :
    resolve c k r now = c := by
  simp [resolve, h]

/-- a stored reply replaces the previous entry of exactly that key and touches no other key -/
theorem C06_store_touches_one_key (c : Cache) (k k' : Key) (r : Reply) (now : Nat) (h : k' ≠ k) :
    find (resolve c k r now) k' = find c k' := by
  unfold resolve
  split
  · exact (find?_replace_key Entry.key _ k' c).trans (if_neg h)
  · rfl

/-! Non-vacuity: a reply with TTLs (300, 60 | 120 | 3600) is served at age 59.5 s with TTLs
    reduced by 59 and missed at 60.000000001 s. -/
def exK : Key := { qname := [[119, 119, 119], [120]], qtype := 1, edo := false, cd := false }
def exR : Reply := { answer := [300, 60], authority := [120], additional := [3600] }
example : lookup (runOps ⟨[], 0⟩ [.resolve exK exR, .tick 59500000000]).cache exK 59500000000
    = .hit { answer := [241, 1], authority := [61], additional := [3541] } := by decide
example : lookup (runOps ⟨[], 0⟩ [.resolve exK exR, .tick 60000000001]).cache exK 60000000001 = .miss := by decide

/-- **C06 (the key).** On the real query path an entry is stored and looked up under the query's own name, type,
    DNSSEC-OK and checking-disabled bits — the `CacheKey` literal in `CacheHandler::handle_query` takes each field from
    the field of the same meaning, and the key has no other field (extracted; the store/lookup theorems above are about
    that key). -/
theorem C06_key_is_name_type_do_cd : Generated.Dns.cacheKeyFromQuery = true := by decide

end Erbium.Props.C06
