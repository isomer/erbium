import ErbiumModel.Model.AddrSets
import ErbiumModel.Lemmas.Select
import ErbiumModel.Lemmas.Policy
/-! # C02 — DHCP leases exactly the addresses the configuration grants that client -/
namespace Erbium.Props.C02
open Erbium Erbium.AddrSets Erbium.Pool

theorem mem_hosts (net n k x : Nat) :
    x ∈ (((List.range (n - k)).filter (· ≥ 1)).map (net + ·)) ↔ net < x ∧ x + k < net + n := by
  simp only [List.mem_map, List.mem_filter, List.mem_range, decide_eq_true_eq]
  constructor
  · rintro ⟨o, ⟨h1, h2⟩, rfl⟩; omega
  · intro h; exact ⟨x - net, ⟨by omega, by omega⟩, by omega⟩

/-- **C02 (`apply-subnet`).** Exactly the host addresses: every address strictly between the
    network address and the broadcast address (`net + 2^(32-len) - 1`), for every prefix length. -/
theorem C02_apply_subnet_exact (net len x : Nat) :
    x ∈ subnetHosts net len ↔ net < x ∧ x < net + 2 ^ (32 - len) - 1 := by
  unfold subnetHosts
  have hk : Generated.Dhcp.applySubnetUpperMinus = 1 := by decide
  have hp := Nat.two_pow_pos (32 - len)
  rw [hk, mem_hosts]; omega

/-- **C02 (`apply-range`).** Both ends included. -/
theorem C02_apply_range_exact (s e x : Nat) : x ∈ rangeAddrs s e ↔ s ≤ x ∧ x ≤ e := by
  unfold rangeAddrs
  simp only [List.mem_map, List.mem_range]
  constructor
  · rintro ⟨o, ho, rfl⟩; omega
  · intro h; exact ⟨x - s, by omega, by omega⟩

theorem C02_apply_range_inclusive_in_source : Generated.Dhcp.applyRangeInclusive = true := by decide

/-- **C02 (default pool).** For an `addresses` prefix the pool offered on it is: every host
    address of the subnet except the server's own address on the receiving interface and every
    address used by a configured policy. -/
theorem C02_default_pool_exact (addr len server : Nat) (used : List Nat) (x : Nat) :
    x ∈ defaultPool addr len server used ↔
      (addr &&& Dhcp.netmask len) < x ∧ x < (addr &&& Dhcp.netmask len) + 2 ^ (32 - len) - 1 ∧ x ≠ server ∧ x ∉ used := by
  unfold defaultPool Dhcp.defaultHostOffsets
  have hk : Generated.Dhcp.defaultRangeUpperMinus = 1 := by decide
  have hp := Nat.two_pow_pos (32 - len)
  simp only [List.mem_filter, hk, mem_hosts, Bool.and_eq_true, bne_iff_ne, ne_eq, Bool.not_eq_true',
             List.contains_eq_mem, decide_eq_false_iff_not]
  constructor
  · rintro ⟨⟨h1, h2⟩, h3, h4⟩; exact ⟨h1, by omega, h3, h4⟩
  · rintro ⟨h1, h2, h3, h4⟩; exact ⟨⟨h1, by omega⟩, h3, h4⟩

/-- **C02 (reservations).** An address used by a sub-policy (at any depth) is never in the
    parent's own set: a more specific policy's addresses are reserved for its clients. -/
theorem C02_parent_excludes_descendants (items : Option (List Item)) (subs : List PolicyDesc) (x : Nat)
    (l : List Nat) (hl : (PolicyDesc.mk items subs).addrs = some l) (hx : x ∈ l) : x ∉ usedL subs := by
  unfold PolicyDesc.addrs at hl
  cases items with
  | none => cases hl
  | some is =>
    simp only [Option.some.injEq] at hl
    subst hl
    have := (List.mem_filter.mp hx).2
    simpa using this

/-- a single-address reservation gets that address and no other: its set is `[a]` (unless a
    sub-policy of its own claims it) -/
theorem C02_single_reservation (a : Nat) : (PolicyDesc.mk (some [.address a]) []).addrs = some [a] := by
  simp [PolicyDesc.addrs, Item.expand, usedL]

/-- **C02 (only granted addresses).** Every address `select_address` can return lies in the
    address set passed to it (the set of the innermost matching policy, `apply_policy`). -/
theorem C02_grant_in_pool (s : Store) (now : Nat) (c : Client) (req : Option Nat) (pool : List Nat) (x : Nat) (ty : LType) (d : Nat)
    (hu : Uniq s) (h : Outcome.ok x ty d ∈ allowed s now c req pool) : x ∈ pool :=
  (allowed_sound hu h).1

/-- **C02 (everything documented can be leased).** On an empty store a client that asks for any
    address of its set is granted exactly that address. -/
theorem C02_every_address_leasable (now : Nat) (c : Client) (pool : List Nat) (x : Nat) (hx : x ∈ pool) :
    allowed [] now c (some x) pool = [.ok x .requested 0] := by
  have h1 : step1 [] now c (some x) pool = [] := by simp [step1, ownCurrent, bests]
  have h2 : step2fall [] c (some x) pool = true := by simp [step2fall, ownAny, bests]
  have h2' : step2hit [] c (some x) pool = [] := by simp [step2hit, ownAny, bests]
  have h3 : step3 [] now (some x) pool = [.ok x .requested 0] := by
    simp [step3, inUse, rowOf, hx]
  simp [allowed, h1, h2, h2', h3]

theorem setOpt_address (r : Dhcp.Resp) (k : Nat) (v : Option Dhcp.Bytes) : (Dhcp.setOpt r k v).address = r.address := rfl

/-- **C02 (override).** A matching policy that carries an address set replaces whatever set the
    outer policies had assigned (and its own sub-policies may replace it again). -/
theorem C02_policy_sets_its_addresses (req : Dhcp.Req) (ma : Bool) (mc : Option Dhcp.Bytes) (ms : Option (Nat × Nat))
    (mo ao : List (Nat × Option Dhcp.Bytes)) (own : List Nat) (r r' : Dhcp.Resp)
    (h : Dhcp.applyPolicy req (.mk ma mc ms mo (some own) ao []) r = some r') : r'.address = some own := by
  rw [Dhcp.applyPolicy_unfold] at h
  split at h
  · cases h
  · cases h
    rw [Dhcp.withSubnetDefaults_address, Dhcp.applyPolicies_nil, Dhcp.withOptions_address]; rfl

example : subnetHosts 0xc0000208 29 = [0xc0000209, 0xc000020a, 0xc000020b, 0xc000020c, 0xc000020d, 0xc000020e] := by decide

end Erbium.Props.C02
