import ErbiumModel.Lemmas.Pool
import ErbiumModel.Lemmas.Resp
/-! # C13 — only DHCP messages meant for this server are answered or change lease state -/
namespace Erbium.Props.C13
open Erbium Erbium.Dhcp Erbium.Pool

/-- **C13 (1).** A reply is produced only for a DISCOVER, or for a REQUEST that names no server
    or names an address this server has identified itself with. -/
theorem C13_replied_only_for_this_server {cfg req ids st r st'}
    (h : Handles cfg req ids st (some r) st') :
    lookupOpt req.pkt.options 53 = some [1] ∨
    (lookupOpt req.pkt.options 53 = some [3] ∧
      (optIp req.pkt.options 54 = none ∨ ∃ si, optIp req.pkt.options 54 = some si ∧ si ∈ ids)) := by
  cases h with
  | grant c rq pool resp isReq x ty d now' blob hp _ _ =>
    rcases (plan_alloc hp).2 with ⟨h1, _⟩ | ⟨h1, _, h3⟩
    · exact Or.inl h1
    · exact Or.inr ⟨h1, h3⟩

/-- **C13 (2).** No reply ⇒ every stored lease is exactly as it was (RELEASE, DECLINE, INFORM,
    unknown types, no type, a REQUEST for another server, no matching policy, no pool, exhaustion). -/
theorem C13_no_reply_no_change {cfg req ids st st'} (h : Handles cfg req ids st none st') : st' = st := by
  cases h <;> rfl

/-- **C13 (3).** A reply only ever touches the lease row of the address it assigns. -/
theorem C13_only_own_row {cfg req ids st r st'} (h : Handles cfg req ids st (some r) st') :
    ∀ y, y ≠ r.yiaddr → rowOf st'.rows y = rowOf st.rows y := by
  cases h with
  | grant c rq pool resp isReq x ty d now' blob _ _ _ =>
    intro y hy
    exact (rowOf_grant ..).trans (if_neg hy)

/-- **C13 (4).** Every reply echoes the request's transaction id, hardware address, relay address
    and flags, and carries a server identifier naming this server. -/
theorem C13_reply_echoes {cfg req ids st r st'} (h : Handles cfg req ids st (some r) st') :
    r.xid = req.pkt.xid ∧ r.chaddr = req.pkt.chaddr ∧ r.giaddr = req.pkt.giaddr ∧ r.flags = req.pkt.flags ∧
    ∃ sid, lookupOpt r.options 54 = some (ser32 sid) ∧ (sid = req.serverip ∨ sid ∈ ids) := by
  cases h with
  | grant c rq pool resp isReq x ty d now' blob hp _ _ =>
    refine ⟨rfl, rfl, rfl, rfl, ?_⟩
    simp only [reply_options, show (54:Nat) ≠ 51 by decide, if_false, if_true]
    rcases (plan_alloc hp).2 with ⟨_, rfl⟩ | ⟨_, rfl, hn | ⟨si, hs, hi⟩⟩
    · exact ⟨_, rfl, .inl rfl⟩
    · exact ⟨_, by rw [if_pos rfl, hn]; rfl, .inl rfl⟩
    · exact ⟨si, by rw [if_pos rfl, hs]; rfl, .inr hi⟩

/-- the dispatch of `handle_pkt` in the source has the shape the model assumes -/
theorem C13_dispatch_shape : Generated.Dhcp.dispatchOk = true := by decide

/-! Non-vacuity: a DISCOVER on a /29 is planned as an allocation; a RELEASE is refused. -/
def exCfg : Cfg := { addresses := [(0xc0000200, 29)] }
def exReq (t : Nat) : Req :=
  { pkt := { op := 1, htype := 1, hlen := 6, hops := 0, xid := 7, secs := 0, flags := 0, ciaddr := 0,
             yiaddr := 0, siaddr := 0, giaddr := 0, chaddr := [0, 0, 0x5e, 0, 0x53, 0], sname := [], file := [],
             options := [(53, [t])] },
    serverip := 0xc0000201 }
example : (match plan exCfg (exReq 1) [] with
    | .alloc _ _ pool _ false => pool == [0xc0000202, 0xc0000203, 0xc0000204, 0xc0000205, 0xc0000206]
    | _ => false) = true := by decide
example : (match plan exCfg (exReq 7) [] with
    | .err (.unknownMessageType 7) => true
    | _ => false) = true := by decide

end Erbium.Props.C13
