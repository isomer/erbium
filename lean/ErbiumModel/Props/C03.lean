import ErbiumModel.Lemmas.DnsReply
import ErbiumModel.Lemmas.DnsTruncated
/-! # C03 — DNS answers relayed to clients are faithful to what the upstream server said -/
namespace Erbium.Props.C03
open Erbium Erbium.DnsWire Erbium.DnsRelay

/-- **C03 (fresh reply).** For every query `q` and upstream reply `r` the reply sent to the client
    carries the client's id and question, is a response, and has the upstream's response code,
    answer, authority and additional sections — same records, same order, nothing added, dropped
    or moved. -/
theorem C03_relay_faithful (q r : Pkt) (ip ck : Bytes) :
    let c := createInReply q r ip ck
    c.qid = q.qid ∧ c.qdomain = q.qdomain ∧ c.qclass = q.qclass ∧ c.qtype = q.qtype ∧ c.qr = true ∧
    c.rcode = r.rcode ∧ c.answer = r.answer ∧ c.nameserver = r.nameserver ∧ c.additional = r.additional := by
  have h : Generated.Dns.replyAuthorityFromUpstreamAuthority = true := by decide
  simp [createInReply, h]

/-- the struct literal of `create_in_reply` in the source has the expected source for each field -/
theorem C03_reply_fields_from_expected_sources :
    Generated.Dns.replyQidFromQuery = true ∧ Generated.Dns.replyIsResponse = true ∧
    Generated.Dns.replyRcodeFromUpstream = true ∧ Generated.Dns.replyQuestionFromQuery = true ∧
    Generated.Dns.replyAnswerFromUpstreamAnswer = true ∧ Generated.Dns.replyAuthorityFromUpstreamAuthority = true ∧
    Generated.Dns.replyAdditionalFromUpstreamAdditional = true := by decide

/-- **C03 (cached reply).** A reply served from the cache at age `d` seconds differs from the
    upstream's only in TTLs, each reduced by exactly `d` (and `d` never exceeds any of them, C06). -/
theorem C03_cached_reply_only_ttls_change (q r : Pkt) (d : Nat) (ip ck : Bytes) :
    let c := createInReply q (decTtls r d) ip ck
    c.rcode = r.rcode ∧
    c.answer = r.answer.map (fun x => { x with ttl := x.ttl - d }) ∧
    c.nameserver = r.nameserver.map (fun x => { x with ttl := x.ttl - d }) ∧
    c.additional = r.additional.map (fun x => { x with ttl := x.ttl - d }) ∧
    c.answer.length = r.answer.length ∧ c.nameserver.length = r.nameserver.length ∧
    c.additional.length = r.additional.length := by
  have h : Generated.Dns.replyAuthorityFromUpstreamAuthority = true := by decide
  simp [createInReply, decTtls, h]

/-- the upstream query carries the client's question (and nothing of the client's records) -/
theorem C03_upstream_query_carries_question (id : Nat) (q : Pkt) :
    let o := createOutQuery id q
    o.qid = id ∧ o.qdomain = q.qdomain ∧ o.qclass = q.qclass ∧ o.qtype = q.qtype ∧ o.qr = false ∧ o.rd = true ∧
    o.answer = [] ∧ o.nameserver = [] ∧ o.additional = [] := by
  simp [createOutQuery]

example : (createInReply
    { qid := 7, rd := true, tc := false, aa := false, qr := false, opcode := 0, cd := false, ad := false, ra := false, rcode := 0,
      bufsize := 1232, ednsVer := some 0, ednsDo := false, qdomain := [[97]], qclass := 1, qtype := 1, answer := [],
      nameserver := [], additional := [], edns := some [] }
    { qid := 99, rd := true, tc := false, aa := false, qr := true, opcode := 0, cd := false, ad := false, ra := true, rcode := 3,
      bufsize := 512, ednsVer := none, ednsDo := false, qdomain := [[97]], qclass := 1, qtype := 1, answer := [],
      nameserver := [⟨[], 1, 6, 60, .soa [[110]] [[114]] 1 2 3 4 5⟩], additional := [], edns := none } [] []).nameserver.length = 1 := by
  decide

/-- **C03 (on the wire).** What the client decodes from the bytes it receives is the reply that was assembled:
    whenever the reply to `q` built from the upstream's `r` is of the decoder's shape and is written completely,
    decoding the wire gives back that reply — so, with `C03_relay_faithful`, the client's own id and question and the
    upstream's rcode and three sections, record for record, compressed names included. -/
theorem C03_wire_faithful (q r : Pkt) (ip ck : Bytes) (size : Nat) (wire : Bytes)
    (hw : WfPkt (createInReply q r ip ck)) (hc : Complete (createInReply q r ip ck) size wire) (hsz : wire.length < 65536) :
    ∃ c, parse wire = .ok c ∧ c.qid = q.qid ∧ c.qdomain = q.qdomain ∧ c.qtype = q.qtype ∧ c.qclass = q.qclass ∧
      c.rcode = r.rcode ∧ c.answer = r.answer ∧ c.nameserver = r.nameserver ∧ c.additional = r.additional := by
  have hf := C03_relay_faithful q r ip ck
  simp only at hf
  exact ⟨_, message_roundtrip _ hw size wire hc hsz, hf.1, hf.2.1, hf.2.2.2.1, hf.2.2.1, hf.2.2.2.2.2.1, hf.2.2.2.2.2.2.1,
    hf.2.2.2.2.2.2.2.1, hf.2.2.2.2.2.2.2.2⟩

/-- **C03 (on the wire, every reply).** Whatever the serialiser returns for the assembled reply — complete or cut to
    the client's limit — the client decodes a message with its own id and question and the upstream's low rcode
    bits, whose three sections are *prefixes* of the upstream's sections: no record is invented, altered, reordered
    or moved to another section, and records are missing only from the end, only with TC set; without TC the client
    decodes exactly the assembled reply. -/
theorem C03_every_reply_faithful (q r : Pkt) (ip ck : Bytes) (size : Nat) (hs : 512 ≤ size) (wire : Bytes)
    (hw : WfPkt (createInReply q r ip ck)) (h : serialiseWithSize (createInReply q r ip ck) size = some wire)
    (hsz : wire.length < 65536) :
    ∃ c, parse wire = .ok c ∧ c.qid = q.qid ∧ c.qdomain = q.qdomain ∧ c.qtype = q.qtype ∧ c.qclass = q.qclass ∧
      c.rcode % 16 = r.rcode % 16 ∧ c.answer <+: r.answer ∧ c.nameserver <+: r.nameserver ∧ c.additional <+: r.additional ∧
      (c.tc = false → c = createInReply q r ip ck) := by
  obtain ⟨f1, f2, f3, f4, _, f6, f7, f8, f9⟩ := C03_relay_faithful q r ip ck
  obtain ⟨c, hc, g1, g2, g3, g4, _, g6, g7, g8, g9, g10⟩ := decodes_to_prefix hw h hsz
  exact ⟨c, hc, g1.trans f1, g2.trans f2, g3.trans f4, g4.trans f3, f6 ▸ g6, f7 ▸ g7, f8 ▸ g8, f9 ▸ g9, g10⟩

/-- **C03 (end to end, octets to octets).** Let `bq` and `br` be any strings of octets that the decoder accepts as the
    client's query `q` and the upstream's reply `r` (`r` with fewer than 65535 additional records — it arrived in at
    most 65535 octets), and let the receiving address as text and the server cookie be of any length a 16-bit option
    length can carry. Whatever the serialiser returns for `create_in_reply(q, r)` at any limit ≥ 512, within 65535
    octets, the client decodes: its own id and question, a response, the upstream's low rcode bits, and three
    sections that are prefixes of the upstream's — nothing invented, altered, reordered or moved; records missing
    only from the end and only with TC set; without TC, exactly the assembled reply (as sent: EDNS version 0).
    No well-formedness hypothesis remains: it is proved for everything the decoder returns. -/
theorem C03_end_to_end (bq br : Bytes) (hbq : Octets bq) (hbr : Octets br) (q r : Pkt)
    (hq : parse bq = .ok q) (hr : parse br = .ok r) (had : r.additional.length + 1 < 65536)
    (ip ck : Bytes) (hip : ip.length < 65536) (hck : ck.length + 8 < 65536)
    (size : Nat) (hs : 512 ≤ size) (wire : Bytes)
    (h : serialiseWithSize (createInReply q r ip ck) size = some wire) (hsz : wire.length < 65536) :
    ∃ c, parse wire = .ok c ∧ c.qid = q.qid ∧ c.qdomain = q.qdomain ∧ c.qtype = q.qtype ∧ c.qclass = q.qclass ∧
      c.qr = true ∧ c.rcode % 16 = r.rcode % 16 ∧
      c.answer <+: r.answer ∧ c.nameserver <+: r.nameserver ∧ c.additional <+: r.additional ∧
      (c.tc = false → c = asSent (createInReply q r ip ck)) := by
  have hw := createInReply_wf (parse_wf hbq hq).1 (parse_wf hbr hr).1 had ip ck hip hck
  obtain ⟨f1, f2, f3, f4, f5, f6, f7, f8, f9⟩ := C03_relay_faithful q r ip ck
  obtain ⟨c, hc, g1, g2, g3, g4, g5, g6, g7, g8, g9, g10⟩ :=
    decodes_to_prefix hw ((serialise_asSent _ size).trans h) hsz
  exact ⟨c, hc, g1.trans f1, g2.trans f2, g3.trans f4, g4.trans f3, g5.trans f5, f6 ▸ g6, f7 ▸ g7, f8 ▸ g8, f9 ▸ g9, g10⟩

end Erbium.Props.C03
