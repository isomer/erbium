import ErbiumModel.Lemmas.DhcpDecoded
import ErbiumModel.Lemmas.FrameValid
import ErbiumModel.Generated.Dhcp
import ErbiumModel.Lemmas.Digits
/-! # C12 — DHCP replies on the wire are valid frames decoding to the computed reply -/
namespace Erbium.Props.C12
open Erbium

/-- The broadcast test of the model, over the mask the *source* uses (regenerated on every run). -/
def broadcastFlag (flags : Nat) : Bool := flags &&& Generated.Dhcp.broadcastMask != 0

/-- destination of a reply as `recvdhcp` chooses it (shape regenerated from the source) -/
def replyDst (flags yiaddr : Nat) : Nat :=
  let pick : Generated.Dhcp.DstExpr → Nat := fun e =>
    match e with
    | .broadcast => 0xffffffff
    | .yiaddr => yiaddr
    | .other => 0
  if Generated.Dhcp.dstCondIsBroadcastFlag && broadcastFlag flags then pick Generated.Dhcp.dstThen
  else pick Generated.Dhcp.dstElse

/-- (a) **Round trip**: every well-formed message — any header values, hardware-address length
    0..16, any option table with distinct codes in 1..254 listed in *any* order (the list order is
    the hash map's iteration order), values of **any** length including 0 and > 255 octets —
    decodes from its encoding to exactly itself. -/
theorem C12_roundtrip (m : DhcpWire.Dhcp) (h : DhcpWire.Wf m) :
    DhcpWire.parse (DhcpWire.serialise m) = .ok m :=
  DhcpWire.parse_serialise m h

/-- (a') the decoder concatenates repeated options (RFC 3396) and skips pad octets -/
theorem C12_repeated_concatenate (c : Nat) (a b rest : List Nat) (m : DhcpWire.Opts)
    (h0 : c ≠ 0) (h255 : c ≠ 255) (ha : a.length < 256) (hb : b.length < 256) :
    DhcpWire.parseOptions (c :: a.length :: (a ++ (0 :: c :: b.length :: (b ++ rest)))) m
      = DhcpWire.parseOptions rest (DhcpWire.optAppend m c (a ++ b)) := by
  rw [DhcpWire.parseOptions_cons_opt c a.length _ m h0 h255 (by simp), List.drop_left, List.take_left,
    DhcpWire.parseOptions_pad, DhcpWire.parseOptions_cons_opt c b.length _ _ h0 h255 (by simp), List.drop_left,
    List.take_left, DhcpWire.optAppend_optAppend]

/-- (b) **Frame**: layout, lengths, unmodified payload. -/
theorem C12_frame_layout (u : Frame.Udp4) (h : Frame.WfU u) :
    Frame.frame u = (u.dmac ++ u.smac ++ [0x08, 0x00]) ++ Frame.ipHeader u ++ Frame.udpHeader u ++ u.payload
    ∧ (Frame.ethHeader u).length = 14 ∧ (Frame.ipHeader u).length = 20 ∧ (Frame.udpHeader u).length = 8
    ∧ (Frame.frame u).drop 42 = u.payload
    ∧ Frame.ipTotalLen u = 28 + u.payload.length
    ∧ Frame.udpLen u = 8 + u.payload.length :=
  ⟨rfl, Frame.ethHeader_length h, Frame.ipHeader_length h, Frame.udpHeader_length u, (Frame.frame_slices h).2.2.2,
    Frame.ipTotalLen_eq h, Frame.udpLen_eq h⟩

/-- (b) the IPv4 header checksum verifies (one's-complement sum of the header is 0xffff) -/
theorem C12_ip_checksum (u : Frame.Udp4) (h : Frame.WfU u) :
    Frame.fold (Frame.sumWords (Frame.ipHeader u)) = 0xffff :=
  Frame.ip_checksum_verifies u h

/-- (b) the UDP checksum verifies over pseudo-header, UDP header and (zero padded) payload -/
theorem C12_udp_checksum (u : Frame.Udp4) (h : Frame.WfU u) :
    Frame.fold (Frame.sumWords (Frame.pseudo u ++ Frame.udpHeader u ++ u.payload)) = 0xffff :=
  Frame.udp_checksum_verifies u h

/-- (b') **valid_frame(build(..)) for every input**: the RFC 791/768 reader of `Spec/FrameRfc.lean` —
    the same function the correspondence check applies to the frames the *implementation* builds —
    accepts the model's frame and reads back exactly the addresses, ports, MACs and payload it was
    built from, with both checksums verifying, for every payload up to 65507 octets. -/
theorem C12_frame_valid (u : Frame.Udp4) (h : Frame.WfU u) :
    Spec.FrameRfc.validFrame u (Frame.frame u) = none :=
  Frame.frame_valid u h

/-- (b'') every element of the frame is an octet (nothing written into the headers exceeds its field) -/
theorem C12_frame_is_octets (u : Frame.Udp4) (h : Frame.WfU u) (hsm : ∀ b ∈ u.smac, b < 256)
    (hdm : ∀ b ∈ u.dmac, b < 256) : ∀ b ∈ Frame.frame u, b < 256 :=
  Frame.frame_octets u h hsm hdm

/-- (c) **Broadcast bit**: for all 65536 flag values the test is the most significant bit. -/
theorem C12_broadcast_iff_msb : ∀ f : Fin 65536, broadcastFlag f.val = decide (f.val ≥ 0x8000) :=
  -- the extracted mask must be the single bit 15 for this to typecheck
  fun f => Digits.msb_test (k := 15) f.isLt

/-- (c) the IPv4 destination is the limited broadcast address exactly when the client set the
    broadcast bit, otherwise the assigned address. -/
theorem C12_destination (f : Fin 65536) (yiaddr : Nat) :
    replyDst f.val yiaddr = if f.val ≥ 0x8000 then 0xffffffff else yiaddr := by
  have h := C12_broadcast_iff_msb f
  unfold replyDst
  have c1 : Generated.Dhcp.dstCondIsBroadcastFlag = true := by decide
  have c2 : Generated.Dhcp.dstThen = .broadcast := by decide
  have c3 : Generated.Dhcp.dstElse = .yiaddr := by decide
  simp only [c1, c2, c3, h, Bool.true_and]
  by_cases hf : f.val ≥ 0x8000 <;> simp [hf]

/-- (a2) **The hypothesis of the round trip is what the decoder produces**: every message decoded
    from *any* list of octets is well formed (header fields in range, `hlen` = hardware-address
    length ≤ 16, `sname`/`file` NUL-free and within their fields, option codes distinct and never
    0 or 255). So `Wf` excludes no message the server can ever hold after `dhcppkt::parse`. -/
theorem C12_decoded_wellformed (pkt : List Nat) (hb : ∀ b ∈ pkt, b < 256) (m : DhcpWire.Dhcp)
    (h : DhcpWire.parse pkt = .ok m) : DhcpWire.Wf m :=
  DhcpWire.parse_wf pkt hb m h

/-- (a3) **Decode, encode, decode**, with no well-formedness hypothesis: whatever octet string the
    decoder accepts, re-encoding the result and decoding again gives the same message — nothing a
    client sent is lost or altered by a pass through the codec (relay echo fields, option 82,
    options split over several instances). -/
theorem C12_decode_encode_decode (pkt : List Nat) (hb : ∀ b ∈ pkt, b < 256) (m : DhcpWire.Dhcp)
    (h : DhcpWire.parse pkt = .ok m) : DhcpWire.parse (DhcpWire.serialise m) = .ok m :=
  DhcpWire.parse_serialise m (DhcpWire.parse_wf pkt hb m h)

/-- (a4) **No length octet wraps**: every element the encoder writes is an octet, for option values of
    *any* length — the implementation's `len as u8` (and every other narrowing in `serialise`) never
    sees a value of 256 or more, because long values are split at 255. The model computes over `Nat`,
    so an encoder that wrote `v.length` for a 300-octet value would make this theorem false. -/
theorem C12_encoding_is_octets (m : DhcpWire.Dhcp) (hch : DhcpWire.Octets m.chaddr) (hsn : DhcpWire.Octets m.sname)
    (hfi : DhcpWire.Octets m.file) (hopt : ∀ e ∈ m.options, e.1 < 256 ∧ DhcpWire.Octets e.2) :
    ∀ b ∈ DhcpWire.serialise m, b < 256 :=
  DhcpWire.serialise_octets m hch hsn hfi hopt

/-- (a5) decode → encode writes octets too: for every octet string the decoder accepts, the decoded
    message consists of octets of the input and its re-encoding is an octet string (so the
    hypotheses of `C12_encoding_is_octets` hold of every message the server receives). -/
theorem C12_reencoding_is_octets (pkt : List Nat) (hb : ∀ b ∈ pkt, b < 256) (m : DhcpWire.Dhcp)
    (h : DhcpWire.parse pkt = .ok m) : ∀ b ∈ DhcpWire.serialise m, b < 256 :=
  have ⟨h1, h2, h3, h4⟩ := DhcpWire.parse_octets pkt hb m h
  DhcpWire.serialise_octets m h1 h2 h3 h4

/-! `Wf`, `WfU` and the octet hypotheses are met: a DHCPACK with an empty and a three-octet option, a broadcast reply. -/
def exampleMsg : DhcpWire.Dhcp :=
  { op := 2, htype := 1, hlen := 6, hops := 0, xid := 0xdeadbeef, secs := 0,
    flags := 0x8000, ciaddr := 0, yiaddr := 0xc0000205, siaddr := 0, giaddr := 0,
    chaddr := [0, 0, 0x5e, 0, 0x53, 0], sname := [], file := [],
    options := [(53, [5]), (12, []), (43, [1, 2, 3])] }
theorem exampleMsg_wf : DhcpWire.Wf exampleMsg := by
  constructor
  case options => unfold DhcpWire.OptsWf; decide
  all_goals decide
example : DhcpWire.Wf exampleMsg := exampleMsg_wf

def exampleUdp : Frame.Udp4 :=
  { src := [192, 0, 2, 1], sport := 67, smac := [2, 0, 0, 0, 0, 0],
    dst := [255, 255, 255, 255], dport := 68, dmac := [2, 0, 0, 0, 0, 1], payload := [1, 2, 3] }
example : Frame.WfU exampleUdp := by
  constructor <;> decide

/-- the decoder does accept octet strings: the encoding of `exampleMsg` is one -/
example : DhcpWire.parse (DhcpWire.serialise exampleMsg) = .ok exampleMsg :=
  C12_roundtrip exampleMsg exampleMsg_wf

example : (∀ e ∈ exampleMsg.options, e.1 < 256 ∧ DhcpWire.Octets e.2) ∧ DhcpWire.Octets exampleMsg.chaddr := by
  unfold DhcpWire.Octets exampleMsg; decide

end Erbium.Props.C12
