import ErbiumModel.Spec.RaRfc
/-! Under the router-advertisement round trip (`Lemmas/RaCodec`): fields of big-endian octets of any width read back
    (`be_digits`, clamped: `be_digits_clamp`), and what the serialiser's helpers compute (`maskPrefix`, the flag octet,
    the PREF64 table `plc`, `padTo8`, `chunks`). -/
namespace Erbium.RaCodec
open Erbium.Radv Erbium.RaRfc

theorem be_append (a b : Bytes) : be (a ++ b) = be a * 256 ^ b.length + be b := by
  have init : ∀ (b : Bytes) (i : Nat), b.foldl (fun acc x => acc * 256 + x) i =
      i * 256 ^ b.length + b.foldl (fun acc x => acc * 256 + x) 0 := by
    intro b
    induction b with
    | nil => intro i; simp
    | cons d ds ih =>
      intro i
      simp only [List.foldl_cons, List.length_cons]
      rw [ih (i * 256 + d), ih (0 * 256 + d), Nat.pow_succ]
      simp only [Nat.zero_mul, Nat.zero_add, Nat.add_mul, Nat.mul_assoc, Nat.add_assoc, Nat.mul_comm (256 ^ ds.length) 256]
  unfold be
  rw [List.foldl_append, init]

/-- the `k` big-endian octets of `x` -/
def digits (k x : Nat) : Bytes := (List.range k).map fun i => x / 256 ^ (k - 1 - i) % 256

theorem digits_succ (k x : Nat) : digits (k + 1) x = digits k (x / 256) ++ [x % 256] := by
  unfold digits
  rw [List.range_succ, List.map_append]
  congr 1
  · apply List.map_congr_left
    intro i hi
    have hi' : i < k := List.mem_range.mp hi
    have e : k + 1 - 1 - i = (k - 1 - i) + 1 := by omega
    rw [e, Nat.pow_succ, Nat.mul_comm, ← Nat.div_div_eq_div_mul]
  · simp

theorem be_digits : ∀ (k x : Nat), be (digits k x) = x % 256 ^ k
  | 0, x => by simp [digits, be, Nat.mod_one]
  | k + 1, x => by
    rw [digits_succ, be_append, be_digits k (x / 256)]
    show x / 256 % 256 ^ k * 256 + (0 * 256 + x % 256) = _
    rw [Nat.pow_succ, Nat.mul_comm (256 ^ k) 256, Nat.mod_mul]
    omega

theorem digits_length (k x : Nat) : (digits k x).length = k := by rw [digits, List.length_map, List.length_range]

theorem be_digits_lt {k x : Nat} (h : x < 256 ^ k) : be (digits k x) = x := by
  rw [be_digits, Nat.mod_eq_of_lt h]

theorem clamp_lt {x m n : Nat} (h : m < n) : clamp x m < n := Nat.lt_of_le_of_lt (Nat.min_le_right ..) h

theorem be_digits_clamp (k x : Nat) : be (digits k (clamp x (256 ^ k - 1))) = min x (256 ^ k - 1) :=
  be_digits_lt (clamp_lt (Nat.sub_one_lt (Nat.ne_of_gt (Nat.pow_pos (by decide)))))

theorem u16_digits (x : Nat) : u16 x = digits 2 x := by simp [u16, digits, List.range_succ]
theorem u32_digits (x : Nat) : u32 x = digits 4 x := by simp [u32, digits, List.range_succ]
theorem u128_digits (x : Nat) : u128 x = digits 16 x := rfl

theorem be_u16 (x : Nat) (h : x < 65536) : be (u16 x) = x := u16_digits x ▸ be_digits_lt (k := 2) h
theorem be_u32 (x : Nat) (h : x < 4294967296) : be (u32 x) = x := u32_digits x ▸ be_digits_lt (k := 4) h
theorem be_u128 (x : Nat) (h : x < 2 ^ 128) : be (u128 x) = x := be_digits_lt (k := 16) h
theorem be_u16_clamp (x : Nat) : be (u16 (clamp x 65535)) = min x 65535 := u16_digits _ ▸ be_digits_clamp 2 x
theorem be_u32_clamp (x : Nat) : be (u32 (clamp x 0xffffffff)) = min x 0xffffffff := u32_digits _ ▸ be_digits_clamp 4 x

theorem digits_take (k x : Nat) : ∀ j, (digits (k + j) x).take k = digits k (x / 256 ^ j)
  | 0 => by rw [Nat.add_zero, Nat.pow_zero, Nat.div_one, List.take_of_length_le (Nat.le_of_eq (digits_length k x))]
  | j + 1 => by
    rw [← Nat.add_assoc, digits_succ, List.take_append_of_le_length (by rw [digits_length]; omega), digits_take k _ j,
      Nat.div_div_eq_div_mul, Nat.pow_succ, Nat.mul_comm]

theorem u128_length (x : Nat) : (u128 x).length = 16 := by rw [u128_digits, digits_length]

theorem flatMap_u128_length (l : List Nat) : (l.flatMap u128).length = 16 * l.length := by
  induction l with
  | nil => rfl
  | cons a as ih => simp only [List.flatMap_cons, List.length_append, u128_length, ih, List.length_cons]; omega

/-- reading sixteen-octet addresses back out of their concatenation -/
theorem chunks_u128 : ∀ (l : List Nat) (pre : Bytes), (∀ s ∈ l, s < 2 ^ 128) →
    (List.range l.length).map (fun i => be (((pre ++ l.flatMap u128).drop (pre.length + 16 * i)).take 16)) = l
  | [], _, _ => by simp
  | a :: as, pre, h => by
    have ih := chunks_u128 as (pre ++ u128 a) (fun s hs => h s (by simp [hs]))
    rw [List.length_cons, List.range_succ_eq_map, List.map_cons, List.map_map]
    congr 1
    · simp only [Nat.mul_zero, Nat.add_zero, List.flatMap_cons]
      rw [List.drop_left' rfl, List.take_left' (u128_length a)]
      exact be_u128 a (h a (by simp))
    · refine Eq.trans ?_ ih
      apply List.map_congr_left
      intro i _
      simp only [Function.comp, List.flatMap_cons, List.length_append, u128_length, List.append_assoc]
      have : pre.length + 16 * (i + 1) = pre.length + 16 + 16 * i := by omega
      rw [this]

theorem maskPrefix_lt (addr len : Nat) (h : addr < 2 ^ 128) : maskPrefix addr len < 2 ^ 128 := by
  unfold maskPrefix
  exact Nat.lt_of_le_of_lt (Nat.div_mul_le_self _ _) h

theorem maskPrefix_eq (addr len : Nat) (h : len ≤ 128) : maskPrefix addr len = addr / 2 ^ (128 - len) * 2 ^ (128 - len) := by
  unfold maskPrefix; rw [Nat.min_eq_left h]

theorem maskPrefix_low_bits {addr len k : Nat} (h : len ≤ 128) (hk : k ≤ 128 - len) : maskPrefix addr len % 2 ^ k = 0 := by
  rw [maskPrefix_eq addr len h, show 128 - len = k + (128 - len - k) by omega, Nat.pow_add, ← Nat.mul_assoc,
    Nat.mul_comm _ (2 ^ k), Nat.mul_assoc]
  exact Nat.mul_mod_right _ _

-- the ascriptions spare the elaborator the late defaulting of six numerals
theorem flags_decode (a b : Bool) :
    ((if a then 128 else 0) + (if b then 64 else 0) : Nat) % 64 = 0 ∧
    (decide (((if a then 128 else 0) + (if b then 64 else 0) : Nat) / 128 % 2 = 1) = a) ∧
    (decide (((if a then 128 else 0) + (if b then 64 else 0) : Nat) / 64 % 2 = 1) = b) := by
  cases a <;> cases b <;> exact ⟨rfl, rfl, rfl⟩

theorem plc_none_iff (len : Nat) : plc len = none ↔ len ∉ [32, 40, 48, 56, 64, 96] := by
  simp only [List.mem_cons, List.not_mem_nil, or_false, not_or]
  constructor
  · intro h
    refine ⟨?_, ?_, ?_, ?_, ?_, ?_⟩ <;> (rintro rfl; cases h)
  · rintro ⟨h32, h40, h48, h56, h64, h96⟩
    rw [plc, if_neg h96, if_neg h64, if_neg h56, if_neg h48, if_neg h40, if_neg h32]

theorem plc_mem {len c : Nat} (h : plc len = some c) : len ∈ [32, 40, 48, 56, 64, 96] :=
  Decidable.by_contra fun hn => by rw [(plc_none_iff len).mpr hn] at h; cases h

theorem plc_some {len c : Nat} (h : plc len = some c) : plcLen c = some len ∧ c < 8 := by
  have hm := plc_mem h
  simp only [List.mem_cons, List.not_mem_nil, or_false] at hm
  rcases hm with rfl | rfl | rfl | rfl | rfl | rfl <;> cases h <;> exact ⟨rfl, by decide⟩

theorem plc_bounds {len c : Nat} (h : plc len = some c) : 32 ≤ len ∧ len ≤ 96 := by
  have hm := plc_mem h
  simp only [List.mem_cons, List.not_mem_nil, or_false] at hm
  omega

/-- all that the proofs use of `padTo8` -/
theorem padTo8_length (b : Bytes) (hdr : Nat) :
    ((padTo8 b hdr).length + hdr) % 8 = 0 ∧ b.length ≤ (padTo8 b hdr).length ∧ (padTo8 b hdr).length < b.length + 8 := by
  simp only [padTo8, List.length_append, List.length_replicate]; omega

theorem chunks_single {α : Type} (n : Nat) (l : List α) (h0 : 0 < l.length) (hn : l.length ≤ n) :
    chunks n l.length l = [l] := by
  obtain ⟨a, as, rfl⟩ := List.exists_cons_of_length_pos h0
  rw [List.length_cons, chunks, List.isEmpty_cons, if_neg Bool.false_ne_true, List.take_of_length_le hn, List.drop_of_length_le hn]
  cases as.length <;> rfl

theorem chunks_bounds {α : Type} (n : Nat) (hn : 1 ≤ n) : ∀ (fuel : Nat) (l : List α), ∀ c ∈ chunks n fuel l, 1 ≤ c.length ∧ c.length ≤ n := by
  intro fuel
  induction fuel with
  | zero => intro l c hc; simp [chunks] at hc
  | succ fuel ih =>
    intro l c hc
    unfold chunks at hc
    split at hc
    · cases hc
    · rename_i hne
      rcases List.mem_cons.mp hc with rfl | hc
      · have : 0 < l.length := List.length_pos_iff.mpr (by rintro rfl; exact hne rfl)
        simp only [List.length_take]; omega
      · exact ih _ c hc

end Erbium.RaCodec
