import ErbiumModel.Model.DnsWire
/-! Where octets sit in a buffer (`At`), and name decoding for the DNS wire round trip (C14): a successful
    decode survives a longer buffer, more fuel and a smaller depth counter, and the three ways a name
    position decodes (terminator, label, pointer). Then names themselves: labels of 1..63 octets (`WfName`),
    a name written in full (`plain`), and the names the decoder accepts (`NameOK`). -/
namespace Erbium.DnsWire

/-- `mid` sits in `buf` at offset `off` -/
def At (buf : Bytes) (off : Nat) (mid : Bytes) : Prop := ∃ pre post, buf = pre ++ mid ++ post ∧ pre.length = off

theorem at_mid (pre mid post : Bytes) : At (pre ++ mid ++ post) pre.length mid := ⟨pre, post, rfl, rfl⟩

theorem At.left {buf off a b} (h : At buf off (a ++ b)) : At buf off a := by
  obtain ⟨pre, post, rfl, hl⟩ := h
  exact ⟨pre, b ++ post, by simp, hl⟩

theorem At.right {buf off a b} (h : At buf off (a ++ b)) : At buf (off + a.length) b := by
  obtain ⟨pre, post, rfl, hl⟩ := h
  exact ⟨pre ++ a, post, by simp, by simp [hl]⟩

theorem At.le {buf off mid} (h : At buf off mid) : off + mid.length ≤ buf.length := by
  obtain ⟨pre, post, rfl, hl⟩ := h
  simp; omega

theorem At.getElem {buf off x rest} (h : At buf off (x :: rest)) : buf[off]? = some x := by
  obtain ⟨pre, post, rfl, rfl⟩ := h
  simp

theorem At.take_drop {buf off mid} (h : At buf off mid) : (buf.drop off).take mid.length = mid := by
  obtain ⟨pre, post, rfl, rfl⟩ := h
  rw [List.append_assoc, List.drop_left' rfl, List.take_left' rfl]

theorem At.take {buf off mid} (h : At buf off mid) : buf.take (off + mid.length) = buf.take off ++ mid := by
  obtain ⟨pre, post, rfl, rfl⟩ := h
  rw [← List.length_append, List.take_left' rfl, List.append_assoc, List.take_left' rfl]

theorem At.cut {buf off mid} (h : At buf off mid) : At (buf.take (off + mid.length)) off mid := by
  rw [h.take]
  exact ⟨buf.take off, [], by simp, by have := h.le; simp; omega⟩

/-- how many pointers the decoder follows in one name (127) -/
def limit : Nat := Generated.Dns.pointerDepthLimit

theorem getDomainInto_ext (buf ext : Bytes) (fuel off depth : Nat) (r : Name × Nat)
    (h : getDomainInto buf fuel off depth = .ok r) (fuel' depth' : Nat) (hf : fuel ≤ fuel') (hd : depth' ≤ depth) :
    getDomainInto (buf ++ ext) fuel' off depth' = .ok r := by
  have hap : ∀ i b, buf[i]? = some b → (buf ++ ext)[i]? = some b := fun i b h => by
    rw [List.getElem?_append_left (List.getElem?_eq_some_iff.mp h).1]; exact h
  fun_induction getDomainInto buf fuel off depth generalizing fuel' depth' r
  case case3 f off depth hb =>  -- terminator
    obtain ⟨f', rfl⟩ : ∃ f', fuel' = f' + 1 := ⟨fuel' - 1, by omega⟩
    simp only [getDomainInto, hap off 0 hb, ↓reduceIte]
    exact h
  case case4 f off depth p hb hp0 hp64 hlen rest o hrec ih =>  -- label, the rest decodes
    obtain ⟨f', rfl⟩ : ∃ f', fuel' = f' + 1 := ⟨fuel' - 1, by omega⟩
    have hlen' : off + 1 + p ≤ (buf ++ ext).length := by rw [List.length_append]; omega
    simp only [getDomainInto, hap off p hb, hp0, hp64, hlen', ↓reduceIte,
      ih _ hrec f' depth' (by omega) hd, List.drop_append_of_le_length (show off + 1 ≤ buf.length by omega),
      List.take_append_of_le_length (show p ≤ (buf.drop (off + 1)).length by rw [List.length_drop]; omega)]
    exact h
  case case9 f off depth p hb hp0 hp64 hp192 hdep lo hlo rest o hrec ih =>  -- pointer, its target decodes
    obtain ⟨f', rfl⟩ : ∃ f', fuel' = f' + 1 := ⟨fuel' - 1, by omega⟩
    simp only [getDomainInto, hap off p hb, hap (off + 1) lo hlo,
      hp0, hp64, hp192, show ¬ depth' > Generated.Dns.pointerDepthLimit by omega, ↓reduceIte,
      ih _ hrec f' (depth' + 1) (by omega) (by omega)]
    exact h
  all_goals cases h

theorem getDomainInto_mono (buf : Bytes) :
    ∀ (fuel off depth : Nat) (r : Name × Nat), getDomainInto buf fuel off depth = .ok r →
      ∀ fuel' depth', fuel ≤ fuel' → depth' ≤ depth → getDomainInto buf fuel' off depth' = .ok r :=
  fun fuel off depth r h fuel' depth' hf hd => by
    simpa only [List.append_nil] using getDomainInto_ext buf [] fuel off depth r h fuel' depth' hf hd

theorem getDomainInto_append (buf ext : Bytes) :
    ∀ (fuel off depth : Nat) (r : Name × Nat), getDomainInto buf fuel off depth = .ok r →
      getDomainInto (buf ++ ext) fuel off depth = .ok r :=
  fun fuel off depth r h => getDomainInto_ext buf ext fuel off depth r h fuel depth (Nat.le_refl _) (Nat.le_refl _)

/-- `Dec buf off s k o`: the name at `off` decodes to `s` using at most `k` pointer jumps, and the
    stream continues at `o` -/
def Dec (buf : Bytes) (off : Nat) (s : Name) (k o : Nat) : Prop :=
  k ≤ limit ∧ getDomainInto buf (s.length + k + 1) off (limit + 1 - k) = .ok (s, o)

theorem Dec.append {buf off s k o} (h : Dec buf off s k o) (ext : Bytes) : Dec (buf ++ ext) off s k o :=
  ⟨h.1, getDomainInto_append buf ext _ _ _ _ h.2⟩

theorem Dec.mono {buf off s k o} (h : Dec buf off s k o) {k' : Nat} (hk : k ≤ k') (hk' : k' ≤ limit) :
    Dec buf off s k' o :=
  ⟨hk', getDomainInto_mono buf _ _ _ _ h.2 _ _ (by omega) (by omega)⟩

theorem Dec.zero {buf : Bytes} {off : Nat} (h : buf[off]? = some 0) (k : Nat) (hk : k ≤ limit) :
    Dec buf off [] k (off + 1) :=
  ⟨hk, by simp only [getDomainInto, h, ↓reduceIte]⟩

theorem Dec.label {buf : Bytes} {off : Nat} {l : Label} {rest : Name} {k o : Nat}
    (hl : 1 ≤ l.length ∧ l.length ≤ 63) (hat : At buf off (l.length :: l))
    (h : Dec buf (off + 1 + l.length) rest k o) : Dec buf off (l :: rest) k o := by
  have hlen : off + 1 + l.length ≤ buf.length := by have := hat.le; rw [List.length_cons] at this; omega
  have htk : (buf.drop (off + 1)).take l.length = l := (hat.right (a := [l.length])).take_drop
  have hterm : ¬ l.length = 0 := by omega  -- not the terminator
  have hlabel : l.length < 64 := by omega  -- a label, not a pointer
  have h2 := h.2
  rw [← Nat.add_right_comm] at h2
  refine ⟨h.1, ?_⟩
  simp only [List.length_cons, getDomainInto, hat.getElem, hterm, hlabel, hlen, ↓reduceIte, h2, htk]

theorem Dec.pointer {buf : Bytes} {off target : Nat} {s : Name} {k o : Nat}
    (h0 : buf[off]? = some (192 + target / 256)) (h1 : buf[off + 1]? = some (target % 256))
    (ht : target / 256 < 64) (h : Dec buf target s k o) (hk : k + 1 ≤ limit) :
    Dec buf off s (k + 1) (off + 2) := by
  have hp : 192 ≤ 192 + target / 256 := Nat.le_add_right ..
  have e3 : ¬ (limit + 1 - (k + 1) > Generated.Dns.pointerDepthLimit) := by show ¬ (_ > limit); omega
  have h2 := h.2
  rw [show limit + 1 - k = limit + 1 - (k + 1) + 1 by omega] at h2
  refine ⟨hk, ?_⟩
  rw [← Nat.add_assoc, getDomainInto]
  simp only [h0, h1,
    Nat.ne_of_gt (Nat.lt_of_lt_of_le (by decide : 0 < 192) hp),  -- the first octet is not the terminator
    Nat.not_lt.mpr (Nat.le_trans (by decide : 64 ≤ 192) hp),  -- nor a label length
    ge_iff_le, hp, e3, ↓reduceIte, Nat.add_sub_cancel_left, Nat.div_add_mod', h2]

/-- `hs` keeps the fuel of the `Dec` fact, `s.length + k + 1`, within what `get_domain` starts with -/
theorem getDomain_of_dec {buf off s k o} (h : Dec buf off s k o) (hs : s.length ≤ limit)
    (hw : wireLen s ≤ Generated.Dns.nameOctetLimit) :
    getDomain buf off = .ok (s, o) := by
  have hfuel : s.length + k + 1 ≤ nameFuel buf := by
    have := h.1
    have : 2 * (limit + 2) ≤ (buf.length + 2) * (limit + 2) := Nat.mul_le_mul_right _ (by omega)
    show _ ≤ (buf.length + 2) * (limit + 2)
    omega
  simp only [getDomain, getDomainInto_mono buf _ _ _ _ h.2 _ 1 hfuel (by have := h.1; omega),
    show ¬ wireLen s > Generated.Dns.nameOctetLimit by omega, ↓reduceIte]

theorem Dec.lt_length {buf off s k o} (h : Dec buf off s k o) : off < buf.length := by
  have := h.2
  simp only [getDomainInto] at this
  by_cases hlt : off < buf.length
  · exact hlt
  · rw [List.getElem?_eq_none (by omega)] at this; cases this

def WfLabel (l : Label) : Prop := 1 ≤ l.length ∧ l.length ≤ 63
def WfName (n : Name) : Prop := ∀ l ∈ n, WfLabel l

theorem WfName.head {l : Label} {rest : Name} (h : WfName (l :: rest)) : WfLabel l := h l (List.mem_cons_self ..)
theorem WfName.tail {l : Label} {rest : Name} (h : WfName (l :: rest)) : WfName rest := fun x hx => h x (List.mem_cons_of_mem _ hx)
theorem WfName.reverse {d : Name} (h : WfName d) : WfName d.reverse := fun l hl => h l (List.mem_reverse.mp hl)

/-- the octets of labels written out in full -/
def plain : Name → Bytes
  | [] => []
  | l :: rest => l.length :: l ++ plain rest

theorem plain_append (a b : Name) : plain (a ++ b) = plain a ++ plain b := by
  induction a with
  | nil => rfl
  | cons l ls ih => simp [plain, ih]

theorem dec_plain (w : Name) (hw : WfName w) {buf : Bytes} {off : Nat} {suf : Name} {k o : Nat}
    (h : At buf off (plain w)) (hd : Dec buf (off + (plain w).length) suf k o) : Dec buf off (w ++ suf) k o := by
  induction w generalizing off with
  | nil => exact hd
  | cons l ls ih =>
    have h' : At buf off ((l.length :: l) ++ plain ls) := h
    refine Dec.label hw.head h'.left
      (ih hw.tail (by simpa only [List.length_cons, Nat.add_assoc, Nat.add_comm 1] using h'.right) ?_)
    simpa only [plain, List.length_cons, List.length_append, Nat.add_assoc, Nat.add_comm 1, Nat.add_left_comm 1] using hd

theorem plain_length_reverse (a : Name) : (plain a.reverse).length = (plain a).length := by
  induction a with
  | nil => rfl
  | cons l ls ih =>
    simp only [List.reverse_cons, plain_append, plain, List.length_append, List.length_cons, List.length_nil, ih]; omega

/-- every label takes at least two octets, so a name of at most 255 octets has at most 127 labels -/
theorem wireLen_ge {d : Name} (hd : WfName d) : 2 * d.length + 1 ≤ wireLen d := by
  induction d with
  | nil => simp [wireLen]
  | cons l ls ih =>
    have hl := hd.head
    have := ih hd.tail
    unfold WfLabel at hl
    simp only [wireLen, List.length_cons]
    omega

theorem wireLen_eq (d : Name) : wireLen d = (plain d).length + 1 := by
  induction d with
  | nil => rfl
  | cons l ls ih => simp only [wireLen, plain, List.length_cons, List.length_append, ih]; omega

/-- a name the decoder accepts; the label count follows from the other two (`nameOK_of_wireLen`) and is carried because
    the tree lemmas use it directly -/
def NameOK (d : Name) : Prop := WfName d ∧ d.length ≤ limit ∧ wireLen d ≤ Generated.Dns.nameOctetLimit

theorem nameOK_of_wireLen {d : Name} (hd : WfName d) (hw : wireLen d ≤ Generated.Dns.nameOctetLimit) : NameOK d := by
  have := wireLen_ge hd
  have : Generated.Dns.nameOctetLimit = 255 := rfl
  have : limit = 127 := rfl
  exact ⟨hd, by omega, hw⟩

end Erbium.DnsWire
