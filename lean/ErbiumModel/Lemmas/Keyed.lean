/-! Lists with one entry per key (`INSERT OR REPLACE` on the lease table, `mutate_option` on the response, the DNS
    cache, the multiplexer's table of wire ids): what a lookup returns, lookup after the entries of one key were
    removed, or replaced, and that distinct keys determine the entry. -/
namespace Erbium

theorem find?_key_some {α κ : Type} [DecidableEq κ] (key : α → κ) {k : κ} {l : List α} {a : α}
    (h : l.find? (key · == k) = some a) : a ∈ l ∧ key a = k :=
  ⟨List.mem_of_find?_eq_some h, by simpa using List.find?_some h⟩

theorem nodup_map_inj {α κ : Type} (key : α → κ) (l : List α) (h : (l.map key).Nodup) {a b : α} (ha : a ∈ l) (hb : b ∈ l)
    (hk : key a = key b) : a = b :=
  have hp : l.Pairwise fun a b => key a ≠ key b := List.pairwise_map.mp h
  List.Pairwise.forall_of_forall_of_flip (R := fun a b => key a = key b → a = b) (fun _ _ _ => rfl)
    (hp.imp fun hne e => absurd e hne) (hp.imp fun hne e => absurd e.symm hne) ha hb hk

theorem find?_filter_key {α κ : Type} [DecidableEq κ] (key : α → κ) (k k' : κ) (l : List α) :
    (l.filter (key · != k)).find? (key · == k') = if k' = k then none else l.find? (key · == k') := by
  rw [List.find?_filter]
  split
  · subst k'; exact List.find?_eq_none.mpr (by simp)
  · rename_i h
    congr 1; funext a
    by_cases ha : key a = k' <;> simp [ha, h]

theorem find?_replace_key {α κ : Type} [DecidableEq κ] (key : α → κ) (a : α) (k' : κ) (l : List α) :
    (a :: l.filter (key · != key a)).find? (key · == k') = if k' = key a then some a else l.find? (key · == k') := by
  rw [List.find?_cons, find?_filter_key]
  by_cases h : k' = key a
  · simp [h]
  · have : (key a == k') = false := by simpa using fun e => h e.symm
    simp only [this, if_neg h]

end Erbium
