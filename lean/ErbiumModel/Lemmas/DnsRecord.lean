import ErbiumModel.Lemmas.DnsTree
import ErbiumModel.Lemmas.Digits
/-! Record- and section-level round trip: what `push_rr` writes, `get_rr` reads back — for every
    record type, with names compressed against everything written before. -/
namespace Erbium.DnsWire

/-! Field by field: a reader applied where a field sits returns its value and the offset behind it, and what
    followed the field sits at that offset. The last field of a buffer is followed by `[]` (`At.nil`).
    `pushName_at` has the tree valid in one given buffer (`RootOK buf t`); here it is valid for what has been written so
    far (`RootOK (buf.take off) t`), which holds whatever follows and is what each step hands on to the next. -/

theorem At.nil {buf off a} (h : At buf off a) : At buf off (a ++ []) := by rwa [List.append_nil]

theorem getU8_at {buf off x rest} (h : At buf off (x :: rest)) :
    getU8 buf off = .ok (x, off + 1) ∧ At buf (off + 1) rest :=
  ⟨by unfold getU8; rw [h.getElem], h.right (a := [x])⟩

theorem getU16_at {buf off x rest} (hx : x < 65536) (h : At buf off (u16 x ++ rest)) :
    getU16 buf off = .ok (x, off + 2) ∧ At buf (off + 2) rest := by
  obtain ⟨e1, h⟩ := getU8_at (x := x / 256 % 256) h
  obtain ⟨e2, h⟩ := getU8_at h
  refine ⟨?_, h⟩
  simp only [getU16, e1, e2, bind, Except.bind, pure, Except.pure, Digits.join16 hx]

theorem getU32_at {buf off x rest} (hx : x < 4294967296) (h : At buf off (u32 x ++ rest)) :
    getU32 buf off = .ok (x, off + 4) ∧ At buf (off + 4) rest := by
  obtain ⟨e1, h⟩ := getU8_at (x := x / 16777216 % 256) h
  obtain ⟨e2, h⟩ := getU8_at h
  obtain ⟨e3, h⟩ := getU8_at h
  obtain ⟨e4, h⟩ := getU8_at h
  refine ⟨?_, h⟩
  simp only [getU32, e1, e2, e3, e4, bind, Except.bind, pure, Except.pure]
  congr 2
  refine Eq.trans ?_ (Digits.join32 (x := x) (by omega))
  simp only [Nat.add_mul, Nat.mul_assoc, Nat.reduceMul]

theorem getBytes_at {buf off x rest} (h : At buf off (x ++ rest)) :
    getBytes buf off x.length = .ok (x, off + x.length) ∧ At buf (off + x.length) rest :=
  ⟨by unfold getBytes; rw [if_pos h.left.le, h.left.take_drop], h.right⟩

theorem getString_at {buf off s rest} (h : At buf off (s.length :: s ++ rest)) :
    getString buf off = .ok (s, off + s.length + 1) ∧ At buf (off + s.length + 1) rest := by
  obtain ⟨e1, h⟩ := getU8_at h
  obtain ⟨e2, h⟩ := getBytes_at h
  rw [Nat.add_right_comm] at e2 h
  exact ⟨by simp only [getString, e1, e2, bind, Except.bind], h⟩

theorem name_at {d : Name} (hd : NameOK d) {t t' : Tree} {buf w rest : Bytes} {off : Nat}
    (h : pushName d t off = some (w, t')) (hat : At buf off (w ++ rest)) (ht : RootOK (buf.take off) t)
    (hsz : off + w.length < 65536) :
    getDomain buf off = .ok (d, off + w.length) ∧ RootOK (buf.take (off + w.length)) t' ∧
      At buf (off + w.length) rest :=
  ⟨(pushName_at hd h hsz hat.left ht.of_take).1,
   (pushName_at hd h hsz hat.left.cut (rootOK_take_mono (Nat.le_add_right ..) ht)).2, hat.right⟩

def OptsOK (o : List (Nat × Bytes)) : Prop := ∀ e ∈ o, e.1 < 65536 ∧ e.2.length < 65536

theorem parseOpts_pushOpts (o : List (Nat × Bytes)) (ho : OptsOK o) (fuel : Nat) (hf : o.length < fuel) :
    parseOpts fuel (pushOpts o) = .ok o := by
  induction o generalizing fuel with
  | nil => cases fuel <;> simp [parseOpts, pushOpts]
  | cons e es ih =>
    obtain ⟨c, d⟩ := e
    cases fuel with
    | zero => omega
    | succ fuel =>
      have hc := (ho (c, d) (List.mem_cons_self ..)).1
      have hdl := (ho (c, d) (List.mem_cons_self ..)).2
      simp only at hc hdl
      have hcm : c % 65536 = c := Nat.mod_eq_of_lt hc
      have hdm : d.length % 65536 = d.length := Nat.mod_eq_of_lt hdl
      have hpush : pushOpts ((c, d) :: es) = (c / 256 % 256) :: (c % 256) :: (d.length / 256 % 256) ::
          (d.length % 256) :: (d ++ pushOpts es) := by
        simp [pushOpts, u16, hcm, hdm]
      rw [hpush]
      unfold parseOpts
      simp only
      have hlen := Digits.join16 hc
      have hdlen := Digits.join16 hdl
      rw [hdlen]
      have hnl : ¬ (d ++ pushOpts es).length < d.length := by simp
      simp only [hnl, if_false, List.drop_left, List.take_left]
      rw [ih (fun e he => ho e (List.mem_cons_of_mem _ he)) fuel (by simp at hf; omega)]
      simp only [hlen]

/-- the record data fits the record type (what the decoder produces for that type) and its fields fit their wire width -/
def RDataOK (rrtype : Nat) : RData → Prop
  | .cname d => rrtype = T_CNAME ∧ NameOK d
  | .ns d => rrtype = T_NS ∧ NameOK d
  | .ptr d => rrtype = T_PTR ∧ NameOK d
  | .mx p d => rrtype = T_MX ∧ p < 65536 ∧ NameOK d
  | .rt p d => rrtype = T_RT ∧ p < 65536 ∧ NameOK d
  | .afsdb s d => rrtype = T_AFSDB ∧ s < 65536 ∧ NameOK d
  | .rp m x => rrtype = T_RP ∧ NameOK m ∧ NameOK x
  | .soa m r a b c d e => rrtype = T_SOA ∧ NameOK m ∧ NameOK r ∧ a < 4294967296 ∧ b < 4294967296 ∧ c < 4294967296 ∧
      d < 4294967296 ∧ e < 4294967296
  | .naptr o p f s r d => rrtype = T_NAPTR ∧ o < 65536 ∧ p < 65536 ∧ f.length < 256 ∧ s.length < 256 ∧ r.length < 256 ∧ NameOK d
  | .opt o => rrtype = T_OPT ∧ OptsOK o
  | .other _ => rrtype ≠ T_CNAME ∧ rrtype ≠ T_NS ∧ rrtype ≠ T_PTR ∧ rrtype ≠ T_AFSDB ∧ rrtype ≠ T_RP ∧ rrtype ≠ T_RT ∧
      rrtype ≠ T_MX ∧ rrtype ≠ T_NAPTR ∧ rrtype ≠ T_OPT ∧ rrtype ≠ T_SOA

theorem u16_len (x : Nat) : (u16 x).length = 2 := rfl
theorem u32_len (x : Nat) : (u32 x).length = 4 := rfl
theorem hdr_len (p : Pkt) : (hdrOf p).length = 12 := rfl

theorem u16_mod (x : Nat) : u16 (x % 65536) = u16 x := by
  unfold u16
  rw [show 65536 = 256 * 256 from rfl, Nat.mod_mul_right_div_self, Nat.mod_mod, Nat.mod_mul_right_mod]

theorem pushOpts_length (o : List (Nat × Bytes)) : o.length ≤ (pushOpts o).length := by
  induction o with
  | nil => exact Nat.le_refl _
  | cons e es ih => simp only [pushOpts, List.flatMap_cons, List.length_append, List.length_cons, u16_len] at ih ⊢; omega

theorem pushStr_ok {s : Bytes} (h : s.length < 256) : pushStr s = some (s.length :: s) :=
  if_neg (Nat.not_le.mpr h)

/-- **rdata round trip**: RDLENGTH at `off`, the record data behind it -/
theorem rdata_at (rr : RR) (hok : RDataOK rr.rrtype rr.rdata) {t t' : Tree} {buf rb rest : Bytes} {off : Nat}
    (h : pushRData rr t (off + 2) = some (rb, t'))
    (hat : At buf off (u16 (rb.length % 65536) ++ (rb ++ rest)))
    (ht : RootOK (buf.take (off + 2)) t) (hsz : off + 2 + rb.length < 65536) :
    getRData buf off rr.rrtype = .ok (rr.rdata, off + 2 + rb.length) ∧
      RootOK (buf.take (off + 2 + rb.length)) t' ∧ At buf (off + 2 + rb.length) rest := by
  obtain ⟨hL, hR⟩ := getU16_at (Nat.mod_lt _ (by decide)) hat
  rw [Nat.mod_eq_of_lt (by omega)] at hL
  suffices key : _ ∧ _ from ⟨key.1, key.2, hR.right⟩
  obtain ⟨dom, cls, ty, ttl, rd⟩ := rr
  cases rd with
  | cname d | ns d | ptr d =>
    obtain ⟨rfl, hn⟩ := hok
    obtain ⟨n, ht, _⟩ := name_at hn h hR ht hsz
    refine ⟨?_, ht⟩
    simp only [getRData, T_CNAME, T_NS, T_PTR, Nat.reduceEqDiff, ↓reduceIte]
    simp only [hL, n, bind, Except.bind, pure, Except.pure]
  | mx p d | rt p d | afsdb p d =>
    obtain ⟨rfl, hp, hn⟩ := hok
    simp only [pushRData, Option.map_eq_some_iff, Prod.mk.injEq, Prod.exists] at h
    obtain ⟨w, _, hw, rfl, rfl⟩ := h
    simp only [List.length_append, u16_len, ← Nat.add_assoc] at hsz ⊢
    obtain ⟨g, hR⟩ := getU16_at hp hR
    obtain ⟨n, ht, _⟩ := name_at hn hw hR (rootOK_take_mono (by omega) ht) hsz
    refine ⟨?_, ht⟩
    simp only [getRData, T_CNAME, T_NS, T_PTR, T_AFSDB, T_RP, T_RT, T_MX, Nat.reduceEqDiff, ↓reduceIte]
    simp only [hL, g, n, bind, Except.bind, pure, Except.pure]
  | rp m x =>
    obtain ⟨rfl, hm, hx⟩ := hok
    simp only [pushRData, Option.bind_eq_bind, Option.bind_eq_some_iff, Prod.exists, Option.pure_def, Option.some.injEq,
      Prod.mk.injEq] at h
    obtain ⟨b1, t1, h1, b2, _, h2, rfl, rfl⟩ := h
    simp only [List.append_assoc] at hR
    simp only [List.length_append, ← Nat.add_assoc] at hsz ⊢
    obtain ⟨n1, ht, hR⟩ := name_at hm h1 hR ht (by omega)
    obtain ⟨n2, ht, _⟩ := name_at hx h2 hR ht hsz
    refine ⟨?_, ht⟩
    simp only [getRData, T_CNAME, T_NS, T_PTR, T_AFSDB, T_RP, Nat.reduceEqDiff, ↓reduceIte]
    simp only [hL, n1, n2, bind, Except.bind, pure, Except.pure]
  | soa m r a b c d e =>
    obtain ⟨rfl, hm, hr, ha, hb, hc, hd, he⟩ := hok
    simp only [pushRData, ne_eq, not_true_eq_false, ↓reduceIte, Option.bind_eq_bind, Option.bind_eq_some_iff, Prod.exists,
      Option.pure_def, Option.some.injEq, Prod.mk.injEq] at h
    obtain ⟨b1, t1, h1, b2, _, h2, rfl, rfl⟩ := h
    simp only [List.append_assoc] at hR
    simp only [List.length_append, u32_len, ← Nat.add_assoc] at hsz ⊢
    obtain ⟨n1, ht, hR⟩ := name_at hm h1 hR ht (by omega)
    obtain ⟨n2, ht, hR⟩ := name_at hr h2 hR ht (by omega)
    obtain ⟨g1, hR⟩ := getU32_at ha hR
    obtain ⟨g2, hR⟩ := getU32_at hb hR
    obtain ⟨g3, hR⟩ := getU32_at hc hR
    obtain ⟨g4, hR⟩ := getU32_at hd hR
    obtain ⟨g5, _⟩ := getU32_at he hR
    refine ⟨?_, rootOK_take_mono (by omega) ht⟩
    simp only [getRData, T_CNAME, T_NS, T_PTR, T_AFSDB, T_RP, T_RT, T_MX, T_NAPTR, T_OPT, T_SOA, Nat.reduceEqDiff, ↓reduceIte]
    simp only [hL, n1, n2, g1, g2, g3, g4, g5, bind, Except.bind, pure, Except.pure]
  | naptr o p f sv r d =>
    obtain ⟨rfl, ho, hp, hf, hs, hr, hn⟩ := hok
    simp only [pushRData, pushStr_ok hf, pushStr_ok hs, pushStr_ok hr, Option.bind_eq_bind, Option.bind_some,
      Option.bind_eq_some_iff, Prod.exists, Option.pure_def, Option.some.injEq, Prod.mk.injEq] at h
    obtain ⟨w, _, hw, rfl, rfl⟩ := h
    simp only [List.append_assoc] at hR
    simp only [List.length_append, List.length_cons, u16_len, ← Nat.add_assoc] at hsz hw ⊢
    obtain ⟨g1, hR⟩ := getU16_at ho hR
    obtain ⟨g2, hR⟩ := getU16_at hp hR
    obtain ⟨g3, hR⟩ := getString_at hR
    obtain ⟨g4, hR⟩ := getString_at hR
    obtain ⟨g5, hR⟩ := getString_at hR
    obtain ⟨n, ht, _⟩ := name_at hn hw hR (rootOK_take_mono (by omega) ht) hsz
    refine ⟨?_, ht⟩
    simp only [getRData, T_CNAME, T_NS, T_PTR, T_AFSDB, T_RP, T_RT, T_MX, T_NAPTR, Nat.reduceEqDiff, ↓reduceIte]
    simp only [hL, g1, g2, g3, g4, g5, n, bind, Except.bind, pure, Except.pure]
  | opt o =>
    obtain ⟨rfl, ho⟩ := hok
    simp only [pushRData, ne_eq, not_true_eq_false, ↓reduceIte, Option.some.injEq, Prod.mk.injEq] at h
    obtain ⟨rfl, rfl⟩ := h
    obtain ⟨g, _⟩ := getBytes_at hR
    have hp := parseOpts_pushOpts o ho ((pushOpts o).length + 1) (Nat.lt_succ_of_le (pushOpts_length o))
    refine ⟨?_, rootOK_take_mono (by omega) ht⟩
    simp only [getRData, T_CNAME, T_NS, T_PTR, T_AFSDB, T_RP, T_RT, T_MX, T_NAPTR, T_OPT, Nat.reduceEqDiff, ↓reduceIte]
    simp only [hL, g, hp, bind, Except.bind, pure, Except.pure]
  | other x =>
    obtain ⟨n1, n2, n3, n4, n5, n6, n7, n8, n9, n10⟩ := hok
    simp only [pushRData, n9, n10, or_self, ↓reduceIte, Option.ite_none_left_eq_some, Option.some.injEq, Prod.mk.injEq] at h
    obtain ⟨_, rfl, rfl⟩ := h
    obtain ⟨g, _⟩ := getBytes_at hR
    refine ⟨?_, rootOK_take_mono (by omega) ht⟩
    simp only [getRData, n1, n2, n3, n4, n5, n6, n7, n8, n9, n10, ↓reduceIte]
    simp only [hL, g, bind, Except.bind, pure, Except.pure]

/-- a record as the decoder produces them -/
structure RROK (rr : RR) : Prop where
  name : NameOK rr.domain
  ty : rr.rrtype < 65536
  cls : rr.cls < 65536
  ttl : rr.ttl < 4294967296
  rd : RDataOK rr.rrtype rr.rdata

theorem rr_at (rr : RR) (hok : RROK rr) {t t' : Tree} {buf b rest : Bytes} {off : Nat}
    (h : pushRR rr t off = some (b, t')) (hat : At buf off (b ++ rest)) (ht : RootOK (buf.take off) t)
    (hsz : off + b.length < 65536) :
    getRR buf off = .ok (rr, off + b.length) ∧ RootOK (buf.take (off + b.length)) t' ∧
      At buf (off + b.length) rest := by
  have hr := hat.right
  simp only [pushRR, Option.bind_eq_bind, Option.bind_eq_some_iff, Prod.exists, Option.pure_def, Option.some.injEq,
    Prod.mk.injEq] at h
  obtain ⟨nb, t1, h1, rb, _, h2, rfl, rfl⟩ := h
  simp only [List.append_assoc] at hat
  simp only [List.length_append, u16_len, u32_len, ← Nat.add_assoc] at hsz h2 hr ⊢
  obtain ⟨n1, ht, hat⟩ := name_at hok.name h1 hat ht (by omega)
  obtain ⟨g2, hat⟩ := getU16_at hok.ty hat
  obtain ⟨g3, hat⟩ := getU16_at hok.cls hat
  obtain ⟨g4, hat⟩ := getU32_at hok.ttl hat
  obtain ⟨rd, ht, _⟩ := rdata_at rr hok.rd h2 hat (rootOK_take_mono (by omega) ht) (by omega)
  refine ⟨?_, ht, hr⟩
  simp only [getRR, n1, g2, g3, g4, rd, bind, Except.bind, pure, Except.pure]

theorem pushRR_nonempty {rr : RR} {t t' : Tree} {off : Nat} {b : Bytes} (h : pushRR rr t off = some (b, t')) : 10 ≤ b.length := by
  simp only [pushRR, Option.bind_eq_bind, Option.bind_eq_some_iff, Prod.exists, Option.pure_def, Option.some.injEq,
    Prod.mk.injEq] at h
  obtain ⟨nb, -, -, rb, -, -, rfl, -⟩ := h
  simp only [List.length_append, u16_len, u32_len]
  omega

/-- what a section run returns: the buffer extended, the count advanced by the `k` records written, and the same
    octets as a complete run over those `k` records; `k` is all of them unless the run stopped early -/
theorem pushSection_spec {size : Nat} {rs : List RR} {bf : Bytes} {tt : Tree} {nn : Nat} {bf' : Bytes} {tt' : Tree}
    {nn' : Nat} {tr : Bool} (h : pushSection size rs bf tt nn = some (bf', tt', nn', tr)) :
    ∃ k ext tt'', bf' = bf ++ ext ∧ nn' = nn + k ∧ (if tr then k < rs.length else k = rs.length ∧ tt'' = tt') ∧
      pushSection size (rs.take k) bf tt nn = some (bf ++ ext, tt'', nn + k, false) := by
  fun_induction pushSection size rs bf tt nn with
  | case1 => cases h; exact ⟨0, [], tt', by simp, rfl, by simp, by simp [pushSection]⟩  -- no record left
  | case2 => cases h  -- `push_rr` panics
  | case3 _ _ _ t => cases h; exact ⟨0, [], t, by simp, rfl, by simp, by simp [pushSection]⟩  -- the record does not fit
  | case4 rr rest buf t n b t1 hp hgt ih =>  -- the record fits
    obtain ⟨k, e, t2, rfl, rfl, hk, hrun⟩ := ih h
    refine ⟨k + 1, b ++ e, t2, by simp, by omega, ?_, ?_⟩
    · cases tr <;> simpa using hk
    · simp only [List.take_succ_cons, pushSection, hp, hgt, if_false]
      rw [← List.append_assoc, show n + (k + 1) = n + 1 + k by omega]; exact hrun

theorem section_at (size : Nat) (trunc : Bool) (rrs : List RR) (hok : ∀ rr ∈ rrs, RROK rr) (pre : Bytes) (t : Tree)
    (n : Nat) :
    ∀ (w : Bytes) (t' : Tree) (n' : Nat) {buf rest : Bytes},
      pushSection size rrs pre t n = some (pre ++ w, t', n', false) →
      At buf pre.length (w ++ rest) → RootOK (buf.take pre.length) t → pre.length + w.length < 65536 →
      getRRs buf trunc rrs.length pre.length = .ok (rrs, pre.length + w.length) ∧
        RootOK (buf.take (pre.length + w.length)) t' ∧ At buf (pre.length + w.length) rest := by
  fun_induction pushSection size rrs pre t n with
  | case1 pre t n =>  -- no record left
    intro w t' n' buf rest h hat ht _
    simp only [Option.some.injEq, Prod.mk.injEq, List.self_eq_append_right] at h
    obtain ⟨rfl, rfl, -⟩ := h
    exact ⟨rfl, ht, hat⟩
  | case2 => intro w t' n' buf rest h; cases h  -- `push_rr` panics
  | case3 => intro w t' n' buf rest h; simp only [Option.some.injEq, Prod.mk.injEq, Bool.true_eq_false, and_false] at h  -- the record does not fit
  | case4 rr rs pre t n b t1 hp hgt ih =>  -- the record fits
    intro w t' n' buf rest h hat ht hsz
    obtain ⟨-, e, -, he, -⟩ := pushSection_spec h
    rw [List.append_assoc] at he
    obtain rfl := List.append_cancel_left he
    rw [List.append_assoc] at hat
    have hlt : ¬ (pre.length ≥ buf.length && trunc) = true := by
      have := hat.left.le; have := pushRR_nonempty hp
      simp only [Bool.and_eq_true, decide_eq_true_eq]; omega
    simp only [List.length_append, ← Nat.add_assoc] at hsz ⊢
    obtain ⟨g, ht, hat⟩ := rr_at rr (hok rr (List.mem_cons_self ..)) hp hat ht (by omega)
    rw [← List.length_append] at ht hat  -- the offset as `(pre ++ b).length`, the form the induction hypothesis has
    obtain ⟨gs, ht, hat⟩ := ih (fun x hx => hok x (List.mem_cons_of_mem _ hx)) e t' n'
      (by rw [List.append_assoc]; exact h) hat ht (by rw [List.length_append]; exact hsz)
    rw [List.length_append] at gs ht hat
    exact ⟨by simp only [List.length_cons, getRRs, hlt, g, gs, Bool.false_eq_true, ↓reduceIte], ht, hat⟩

/-- `section_at` for a section appended to the buffer written so far -/
theorem section_roundtrip (size : Nat) (trunc : Bool) (rrs : List RR) (hok : ∀ rr ∈ rrs, RROK rr)
    {buf : Bytes} {t : Tree} {n : Nat} {buf' : Bytes} {t' : Tree} {n' : Nat}
    (h : pushSection size rrs buf t n = some (buf', t', n', false)) (ht : RootOK buf t) (hsz : buf'.length < 65536) :
    n' = n + rrs.length ∧ (∀ post, getRRs (buf' ++ post) trunc rrs.length buf.length = .ok (rrs, buf'.length)) ∧
    RootOK buf' t' := by
  obtain ⟨k, w, -, rfl, rfl, ⟨rfl, -⟩, -⟩ := pushSection_spec h
  rw [List.length_append] at hsz ⊢
  have hat : ∀ post, At (buf ++ w ++ post) buf.length (w ++ post) := fun post => ⟨buf, [], by simp, rfl⟩
  have htk : ∀ post, (buf ++ w ++ post).take buf.length = buf := fun post => by
    rw [List.append_assoc, List.take_left' rfl]
  refine ⟨rfl, fun post => ?_, ?_⟩
  · exact (section_at size trunc rrs hok buf t n w t' _ h (hat post) (by rw [htk]; exact ht) hsz).1
  · have := (section_at size trunc rrs hok buf t n w t' _ h (hat []) (by rw [htk]; exact ht) hsz).2.1
    rwa [List.append_nil, ← List.length_append, List.take_length] at this

end Erbium.DnsWire
