/-! Numbers as digit strings: a digit taken off the low end of a number written in a base, two and four base-256 digits
    (most significant first) split and joined again, and single bits and runs of bits taken out, or cleared, by a mask. -/
namespace Erbium.Digits

theorem div_mod_digit {B d : Nat} (y : Nat) (h : d < B) : (y * B + d) / B = y ∧ (y * B + d) % B = d :=
  ⟨by rw [Nat.mul_comm, Nat.mul_add_div (by omega), Nat.div_eq_of_lt h, Nat.add_zero],
   by rw [Nat.mul_comm, Nat.mul_add_mod, Nat.mod_eq_of_lt h]⟩

theorem be4_octets (a b c d : Nat) (ha : a < 256) (hb : b < 256) (hc : c < 256) (hd : d < 256) :
    [(((a * 256 + b) * 256 + c) * 256 + d) / 16777216 % 256, (((a * 256 + b) * 256 + c) * 256 + d) / 65536 % 256,
     (((a * 256 + b) * 256 + c) * 256 + d) / 256 % 256, (((a * 256 + b) * 256 + c) * 256 + d) % 256] = [a, b, c, d] := by
  have h1 := div_mod_digit ((a * 256 + b) * 256 + c) hd
  have h2 := div_mod_digit (a * 256 + b) hc
  have h3 := div_mod_digit a hb
  rw [show 16777216 = 256 * 256 * 256 from rfl, show 65536 = 256 * 256 from rfl, ← Nat.div_div_eq_div_mul,
    ← Nat.div_div_eq_div_mul, h1.1, h1.2, h2.1, h2.2, h3.1, h3.2, Nat.mod_eq_of_lt ha]

theorem join16 {x : Nat} (h : x < 65536) : x / 256 % 256 * 256 + x % 256 = x := by omega

theorem join32 {x : Nat} (h : x < 2 ^ 32) :
    ((x / 16777216 % 256 * 256 + x / 65536 % 256) * 256 + x / 256 % 256) * 256 + x % 256 = x := by
  -- as successive quotients by 256 the digits are small terms for `omega`
  rw [show 16777216 = 256 * 256 * 256 from rfl, show 65536 = 256 * 256 from rfl, ← Nat.div_div_eq_div_mul,
    ← Nat.div_div_eq_div_mul]
  omega

theorem lt16 {a b : Nat} (ha : a < 256) (hb : b < 256) : a * 256 + b < 65536 := by omega

theorem lt32 {a b c d : Nat} (ha : a < 256) (hb : b < 256) (hc : c < 256) (hd : d < 256) :
    ((a * 256 + b) * 256 + c) * 256 + d < 2 ^ 32 := by omega

/-- clearing the low `k` bits leaves what stands above bit `j ≥ k` alone -/
theorem clear_low_add (m a : Nat) {k j : Nat} (h : k ≤ j) :
    (m * 2 ^ j + a) / 2 ^ k * 2 ^ k = m * 2 ^ j + a / 2 ^ k * 2 ^ k := by
  have hj : m * 2 ^ j = m * 2 ^ (j - k) * 2 ^ k := by rw [Nat.mul_assoc, ← Nat.pow_add, Nat.sub_add_cancel h]
  rw [hj, Nat.add_comm, Nat.add_mul_div_right _ _ (Nat.two_pow_pos k), Nat.add_mul, Nat.add_comm]

/-- and-ing with a mask of `n` one-bits shifted left by `k` keeps exactly those bits -/
theorem and_himask (x k n : Nat) : x &&& ((2 ^ n - 1) * 2 ^ k) = (x / 2 ^ k % 2 ^ n) * 2 ^ k := by
  apply Nat.eq_of_testBit_eq
  intro i
  rw [Nat.testBit_and, Nat.testBit_mul_two_pow, Nat.testBit_mul_two_pow, Nat.testBit_two_pow_sub_one,
      Nat.testBit_mod_two_pow, Nat.testBit_div_two_pow]
  by_cases h : k ≤ i
  · simp [h]
    by_cases h2 : i - k < n
    · simp [h2]
    · simp [h2]
  · simp [h]

theorem msb_test {x k : Nat} (h : x < 2 ^ (k + 1)) : (x &&& 2 ^ k != 0) = decide (2 ^ k ≤ x) := by
  have hm : x &&& 2 ^ k = x / 2 ^ k % 2 * 2 ^ k := by simpa using and_himask x k 1
  have hp := Nat.two_pow_pos k
  rw [Nat.pow_succ] at h
  by_cases hx : 2 ^ k ≤ x
  · have : x / 2 ^ k = 1 := by apply Nat.div_eq_of_lt_le <;> omega
    simp [hm, this, hx]
  · simp [hm, Nat.div_eq_of_lt (Nat.lt_of_not_le hx), hx]

end Erbium.Digits
