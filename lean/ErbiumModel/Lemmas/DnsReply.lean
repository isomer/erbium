import ErbiumModel.Model.DnsRelay
import ErbiumModel.Lemmas.DnsDecoded
/-! The reply `create_in_reply` assembles from a decoded query and a decoded upstream reply is inside the domain
    of the wire theorems (C03 end to end, without a well-formedness hypothesis on the assembled reply). -/
namespace Erbium.DnsRelay
open Erbium.DnsWire

/-- the message as a reader sees it: an EDNS record is always written with a version, 0 when the message does
    not say (`edns_ver.unwrap_or(0)`) — erbium's replies to queries without EDNS are of that kind -/
def asSent (p : Pkt) : Pkt := { p with ednsVer := some (p.ednsVer.getD 0) }

theorem additionalOf_asSent (p : Pkt) : additionalOf (asSent p) = additionalOf p := by
  unfold additionalOf asSent
  cases p.edns <;> rfl

theorem serialise_asSent (p : Pkt) (size : Nat) : serialiseWithSize (asSent p) size = serialiseWithSize p size := by
  unfold serialiseWithSize
  rw [additionalOf_asSent]
  rfl

theorem createInReply_nameserver (q r : Pkt) (ip ck : Bytes) : (createInReply q r ip ck).nameserver = r.nameserver :=
  show (if Generated.Dns.replyAuthorityFromUpstreamAuthority then r.nameserver else r.answer) = _ from if_pos (by decide)

theorem addEdns_ok (q : Pkt) (ip ck : Bytes) (hip : ip.length < 65536) (hck : ck.length + 8 < 65536) :
    OptsOK (addEdns q ip ck) := by
  unfold addEdns
  intro e he
  simp only [List.mem_append] at he
  rcases he with he | he
  · split at he
    · simp only [List.mem_singleton] at he; subst he; exact ⟨by show (3 : Nat) < 65536; decide, hip⟩
    · cases he
  · split at he
    · split at he
      · simp only [List.mem_singleton] at he; subst he
        refine ⟨by show (10 : Nat) < 65536; decide, ?_⟩
        simp only [List.length_append, List.length_take]; omega
      · cases he
    · cases he

/-- **the assembled reply is a message the wire theorems speak about** -/
theorem createInReply_wf {q r : Pkt} (hq : WfPkt q) (hr : WfPkt r) (had : r.additional.length + 1 < 65536)
    (ip ck : Bytes) (hip : ip.length < 65536) (hck : ck.length + 8 < 65536) :
    WfPkt (asSent (createInReply q r ip ck)) where
  qid := hq.qid
  opcode := by show (0 : Nat) < 16; decide
  rcode := hr.rcode
  qtype := hq.qtype
  qclass := hq.qclass
  qname := hq.qname
  an := hr.an
  ns := createInReply_nameserver q r ip ck ▸ hr.ns
  ad := hr.ad
  anN := hr.anN
  nsN := createInReply_nameserver q r ip ck ▸ hr.nsN
  adN := by
    show (r.additional ++ [_]).length < 65536
    simp only [List.length_append, List.length_singleton]; exact had
  bufsize := ⟨by show 512 ≤ 4096; decide, by show 4096 < 65536; decide⟩
  edns := Or.inl ⟨_, rfl, addEdns_ok q ip ck hip hck, by
    show some ((q.ednsVer.map (fun _ => 0)).getD 0) = some 0
    cases q.ednsVer <;> rfl⟩

theorem reply_enc {bq br : Bytes} (hbq : Octets bq) (hbr : Octets br) {q r : Pkt}
    (hq : parse bq = .ok q) (hr : parse br = .ok r) (ip ck : Bytes) : PktEnc (asSent (createInReply q r ip ck)) := by
  have hwq := (parse_wf hbq hq).1
  have hwr := parse_wf hbr hr
  have e := pktenc_of_wf hwr.1 hwr.2
  exact { rcode := e.rcode, qname := hwq.qname.1, an := e.an, ad := e.ad, ns := createInReply_nameserver q r ip ck ▸ e.ns }

end Erbium.DnsRelay
