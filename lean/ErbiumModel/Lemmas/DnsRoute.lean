import ErbiumModel.Model.DnsRoute
/-! The route scan of `handle_query`: names equal up to ASCII case, label by label; the scan as a fold — what one
    step and the whole fold guarantee about the pair they hold; the pairs visited as one list. -/
namespace Erbium.DnsRoute

theorem lowerName_eq_iff (a b : Name) :
    lowerName a = lowerName b ↔ a.length = b.length ∧ (a.zip b).all (fun (x, y) => labelEq x y) = true := by
  induction a generalizing b with
  | nil => cases b <;> simp [lowerName]
  | cons x xs ih =>
    cases b with
    | nil => simp [lowerName]
    | cons y ys =>
      have := ih ys
      simp only [lowerName] at this
      simp only [lowerName, List.map_cons, List.cons.injEq, this, List.length_cons, Nat.add_right_cancel_iff,
        List.zip_cons_cons, List.all_cons, Bool.and_eq_true, labelEq, beq_iff_eq]
      exact ⟨fun ⟨h1, h2, h3⟩ => ⟨h2, h1, h3⟩, fun ⟨h2, h1, h3⟩ => ⟨h1, h2, h3⟩⟩

/-- `y` holds a suffix with at least as many labels as the one `x` holds, if `x` holds one -/
def NoLonger (x y : Option (Nat × Name)) : Prop := ∀ a, x = some a → ∃ b, y = some b ∧ a.2.length ≤ b.2.length

theorem NoLonger.refl {x : Option (Nat × Name)} : NoLonger x x := fun a h => ⟨a, h, Nat.le_refl _⟩

theorem NoLonger.trans {x y z : Option (Nat × Name)} (h1 : NoLonger x y) (h2 : NoLonger y z) : NoLonger x z :=
  fun a ha => let ⟨b, hb, hab⟩ := h1 a ha; let ⟨c, hc, hbc⟩ := h2 b hb; ⟨c, hc, Nat.le_trans hab hbc⟩

theorem NoLonger.of_le {a b : Nat × Name} (h : a.2.length ≤ b.2.length) : NoLonger (some a) (some b) :=
  fun _ ha => ⟨b, rfl, Option.some.inj ha ▸ h⟩

theorem better_length {b s : Name} : (better b s = true → b.length ≤ s.length) ∧ (¬ better b s = true → s.length ≤ b.length) := by
  simp only [better, Bool.or_eq_true, Bool.and_eq_true, decide_eq_true_eq, beq_iff_eq]
  omega

theorem stepBest_spec (q : Name) (best : Option (Nat × Name)) (p : Nat × Name) :
    (stepBest q best p = best ∨ (stepBest q best p = some p ∧ endsWith q p.2 = true)) ∧
    NoLonger best (stepBest q best p) ∧ (endsWith q p.2 = true → NoLonger (some p) (stepBest q best p)) := by
  unfold stepBest
  split
  · rename_i hm
    match best with
    | none => exact ⟨.inr ⟨rfl, hm⟩, nofun, fun _ => .refl⟩
    | some b =>
      simp only
      split
      · exact ⟨.inr ⟨rfl, hm⟩, .of_le (better_length.1 ‹_›), fun _ => .refl⟩
      · exact ⟨.inl rfl, .refl, fun _ => .of_le (better_length.2 ‹_›)⟩
  · exact ⟨.inl rfl, .refl, fun h => absurd h ‹_›⟩

theorem foldl_stepBest (q : Name) (l : List (Nat × Name)) (best : Option (Nat × Name)) :
    (l.foldl (stepBest q) best = best ∨ ∃ p ∈ l, l.foldl (stepBest q) best = some p ∧ endsWith q p.2 = true) ∧
    NoLonger best (l.foldl (stepBest q) best) ∧
    ∀ a ∈ l, endsWith q a.2 = true → NoLonger (some a) (l.foldl (stepBest q) best) := by
  induction l generalizing best with
  | nil => exact ⟨.inl rfl, .refl, nofun⟩
  | cons p l ih =>
    obtain ⟨s1, s2, s3⟩ := stepBest_spec q best p
    obtain ⟨i1, i2, i3⟩ := ih (stepBest q best p)
    refine ⟨?_, s2.trans i2, fun a ha hm => ?_⟩
    · rcases i1 with i1 | ⟨p', hp', h⟩
      · rcases s1 with s1 | s1
        · exact .inl (i1.trans s1)
        · exact .inr ⟨p, List.mem_cons_self, i1.trans s1.1, s1.2⟩
      · exact .inr ⟨p', List.mem_cons_of_mem _ hp', h⟩
    · rcases List.mem_cons.mp ha with rfl | ha
      · exact (s3 hm).trans i2
      · exact i3 a ha hm

/-- the double loop as one pass over the indexed table -/
theorem pairs_eq (table : List Route) (i : Nat) :
    pairs i table = (table.zipIdx i).flatMap fun x => x.1.suffixes.map fun s => (x.2, s) := by
  induction table generalizing i with
  | nil => rfl
  | cons r rs ih => rw [pairs, ih, List.zipIdx_cons, List.flatMap_cons]

theorem mem_pairs (table : List Route) (p : Nat × Name) :
    p ∈ pairs 0 table ↔ ∃ r, table[p.1]? = some r ∧ p.2 ∈ r.suffixes := by
  rw [pairs_eq]
  simp only [List.mem_flatMap, List.mem_map, Prod.exists, List.mk_mem_zipIdx_iff_getElem?]
  constructor
  · rintro ⟨r, i, hr, s, hs, rfl⟩; exact ⟨r, hr, hs⟩
  · rintro ⟨r, hr, hs⟩; exact ⟨r, p.1, hr, p.2, hs, rfl⟩

end Erbium.DnsRoute
