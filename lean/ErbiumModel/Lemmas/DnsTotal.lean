import ErbiumModel.Lemmas.DnsRecord
/-! Totality of the encoder: with saturating offsets no assertion of `push_prefix` /
    `push_compressed_domain` can fire on a name of well-formed labels, for any tree the encoder
    itself built, at any offset (also beyond 64 KiB); so `serialise_with_size` returns for every
    message that meets what `push_rr` asserts of its records (`PktEnc`). -/
namespace Erbium.DnsWire

/-- every offset recorded in the tree is non-zero -/
inductive NZ : Tree → Prop
  | mk (t : Tree) : t.data ≠ 0 → (∀ c ∈ t.children, NZ c) → NZ t

theorem NZ.data_ne {t : Tree} (h : NZ t) : t.data ≠ 0 := by cases h; assumption
theorem NZ.children {t : Tree} (h : NZ t) : ∀ c ∈ t.children, NZ c := by cases h; assumption

/-- the children of an optional node carry non-zero offsets (the root's own offset is unused) -/
def NZo : Option Tree → Prop
  | none => True
  | some n => ∀ c ∈ n.children, NZ c

theorem storeOff_pos (hsat : Generated.Dns.offsetSaturates = true) {off : Nat} (h : 1 ≤ off) : storeOff off ≠ 0 := by
  unfold storeOff; rw [if_pos hsat]; omega

theorem nz_snoc {cs : List Tree} {r : Tree} (h : ∀ c ∈ cs, NZ c) (hr : NZ r) : ∀ c ∈ cs ++ [r], NZ c :=
  fun c hc => (List.mem_append.mp hc).elim (h c) fun hn => List.mem_singleton.mp hn ▸ hr

theorem nzo_set {n : Tree} (hnz : NZo (some n)) {c : Tree} (hc : NZ c) (i : Nat) : NZo (setChild (some n) i c) := by
  intro x hx
  rcases (List.mem_or_eq_of_mem_set (by simpa [setChild] using hx : x ∈ n.children.set i c)).symm with rfl | hold
  · exact hc
  · exact hnz x hold

/-- what a `push_prefix` call leaves: a node for the caller to attach, the tree untouched; or the tree updated in
    place, the offset of its top node kept -/
def PrefixPost (node : Option Tree) : Option Tree → Option Tree → Prop
  | some r, node' => NZ r ∧ node' = node
  | none, node' => ∃ n n', node = some n ∧ node' = some n' ∧ n'.data = n.data ∧ NZo (some n')

theorem pushPrefixR_total (hsat : Generated.Dns.offsetSaturates = true) (rl : List Label) (hrl : WfName rl) (hne : rl ≠ []) :
    ∀ (node : Option Tree) (off : Nat), 1 ≤ off → NZo node →
      ∃ bytes ret node', pushPrefixR rl node off = some (bytes, ret, node') ∧ PrefixPost node ret node' := by
  induction rl with
  | nil => exact absurd rfl hne
  | cons label rest ih =>
    intro node off hoff hnz
    have hl := hrl.head
    have hrest := hrl.tail
    cases rest with
    | nil =>
      simp only [pushPrefixR]
      cases hc : findChild node label with
      | none =>
        simp only [pushLabel_wf hl, Option.map_some]
        exact ⟨_, _, _, rfl, .mk _ (storeOff_pos hsat hoff) (fun _ h => nomatch h), rfl⟩
      | some ic =>
        obtain ⟨n, rfl, -, -, hcd⟩ := findChild_spec hc
        simp only [(pointerBytes_ok hcd).1, Option.map_some]
        exact ⟨_, _, _, rfl, n, n, rfl, rfl, rfl, hnz⟩
    | cons l2 rest' =>
      unfold pushPrefixR
      simp only
      cases hc : findChild node label with
      | none =>
        obtain ⟨bytes0, ret0, child', hrec, hpost⟩ := ih hrest (by simp) none off hoff trivial
        cases ret0 with
        | none => obtain ⟨_, _, hn, _⟩ := hpost; cases hn
        | some r =>
          simp only [Option.map_none, hrec, pushLabel_wf hl, Option.map_some]
          exact ⟨_, _, _, rfl, .mk _ (storeOff_pos hsat (by omega)) (fun c hc => List.mem_singleton.mp hc ▸ hpost.1), rfl⟩
      | some ic =>
        obtain ⟨i, c0⟩ := ic
        obtain ⟨n, rfl, hci, -, hcd⟩ := findChild_spec hc
        have hc0 : NZ c0 := hnz c0 (List.mem_of_getElem? hci)
        obtain ⟨bytes0, ret0, child', hrec, hpost⟩ := ih hrest (by simp) (some c0) off hoff hc0.children
        simp only [Option.map_some, hrec]
        cases ret0 with
        | none =>
          obtain ⟨_, n0', hn0, rfl, hdat, hnz'⟩ := hpost
          cases hn0
          exact ⟨_, _, _, rfl, n, _, rfl, rfl, by simp, nzo_set hnz (.mk _ (hdat ▸ hc0.data_ne) hnz') i⟩
        | some r =>
          obtain ⟨hr, rfl⟩ := hpost
          have hbad : ¬ (c0.data / 256 ≥ 64 ∨ c0.data = 0) := by
            have := hc0.data_ne; have := (pointerBytes_ok hcd).2; omega
          simp only [Option.getD_some, hbad, if_false, (pointerBytes_ok hcd).1, Option.map_some]
          exact ⟨_, _, _, rfl, n, _, rfl, rfl, by simp,
            nzo_set hnz (.mk _ (by simpa using hc0.data_ne) (by simpa using nz_snoc hc0.children hr)) i⟩

/-- **`push_compressed_domain` is total** once offsets saturate -/
theorem pushName_total (hsat : Generated.Dns.offsetSaturates = true) (d : Name) (hd : WfName d) (t : Tree) (off : Nat)
    (hoff : 1 ≤ off) (ht : NZo (some t)) :
    ∃ bytes t', pushName d t off = some (bytes, t') ∧ NZo (some t') := by
  unfold pushName
  by_cases hemp : d.isEmpty = true
  · simp only [hemp, if_true]; exact ⟨_, _, rfl, ht⟩
  · simp only [hemp, Bool.false_eq_true, if_false]
    have hrl := hd.reverse
    have hne : d.reverse ≠ [] := by
      intro h; apply hemp; simpa using h
    obtain ⟨bytes0, ret, node', hp, hpost⟩ := pushPrefixR_total hsat d.reverse hrl hne (some t) off hoff ht
    simp only [hp]
    cases ret with
    | none =>
      obtain ⟨_, n', _, rfl, _, hnz'⟩ := hpost
      exact ⟨_, _, rfl, hnz'⟩
    | some r =>
      obtain ⟨hr, rfl⟩ := hpost
      exact ⟨_, _, rfl, fun c hc => nz_snoc ht hr c (by simpa using hc)⟩

theorem nzo_root : NZo (some root) := by intro c hc; simp [root, Tree.children] at hc

/-- exactly what `push_rr` requires of the record data (its assertions and `unwrap`s) -/
def RDataEnc (rrtype : Nat) : RData → Prop
  | .cname d | .ns d | .ptr d => WfName d
  | .mx _ d | .rt _ d | .afsdb _ d => WfName d
  | .rp m x => WfName m ∧ WfName x
  | .soa m r _ _ _ _ _ => rrtype = T_SOA ∧ WfName m ∧ WfName r
  | .naptr _ _ f s r d => f.length < 256 ∧ s.length < 256 ∧ r.length < 256 ∧ WfName d
  | .opt _ => rrtype = T_OPT
  | .other x => rrtype ≠ T_OPT ∧ rrtype ≠ T_SOA ∧ x.length < 65536

def RREnc (rr : RR) : Prop := WfName rr.domain ∧ RDataEnc rr.rrtype rr.rdata

theorem pushRData_total (hsat : Generated.Dns.offsetSaturates = true) (rr : RR) (hok : RDataEnc rr.rrtype rr.rdata)
    (t : Tree) (off : Nat) (hoff : 1 ≤ off) (ht : NZo (some t)) :
    ∃ rb t', pushRData rr t off = some (rb, t') ∧ NZo (some t') := by
  unfold pushRData
  cases hrd : rr.rdata with rw [hrd] at hok
  | cname d | ns d | ptr d => exact pushName_total hsat d hok t off hoff ht
  | mx _ d | rt _ d | afsdb _ d =>
    obtain ⟨b, t', h, hn⟩ := pushName_total hsat d hok t (off + 2) (by omega) ht
    exact ⟨_, _, by simp only [h, Option.map_some]; rfl, hn⟩
  | rp m x =>
    obtain ⟨b1, t1, h1, hn1⟩ := pushName_total hsat m hok.1 t off hoff ht
    obtain ⟨b2, t2, h2, hn2⟩ := pushName_total hsat x hok.2 t1 (off + b1.length) (by omega) hn1
    exact ⟨_, _, by simp only [h1, h2, bind, Option.bind, pure]; rfl, hn2⟩
  | soa m r =>
    obtain ⟨hty, hm, hr⟩ := hok
    obtain ⟨b1, t1, h1, hn1⟩ := pushName_total hsat m hm t off hoff ht
    obtain ⟨b2, t2, h2, hn2⟩ := pushName_total hsat r hr t1 (off + b1.length) (by omega) hn1
    exact ⟨_, _, by simp only [hty, ne_eq, not_true_eq_false, if_false, h1, h2, bind, Option.bind, pure]; rfl, hn2⟩
  | naptr o p f s r d =>
    obtain ⟨hf, hs, hr, hd⟩ := hok
    obtain ⟨b, t', h, hn⟩ := pushName_total hsat d hd t
      (off + (u16 o ++ u16 p ++ (f.length :: f) ++ (s.length :: s) ++ (r.length :: r)).length) (by omega) ht
    exact ⟨_, _, by simp only [pushStr_ok hf, pushStr_ok hs, pushStr_ok hr, h, bind, Option.bind, pure]; rfl, hn⟩
  | opt =>
    have hty : rr.rrtype = T_OPT := hok
    exact ⟨_, _, by simp only [hty, ne_eq, not_true_eq_false, if_false]; rfl, ht⟩
  | other x =>
    obtain ⟨h1, h2, h3⟩ := hok
    exact ⟨_, _, by simp only [h1, h2, or_self, if_false, show ¬ x.length ≥ 65536 by omega]; rfl, ht⟩

theorem pushRR_total (hsat : Generated.Dns.offsetSaturates = true) (rr : RR) (hok : RREnc rr)
    (t : Tree) (off : Nat) (hoff : 1 ≤ off) (ht : NZo (some t)) :
    ∃ b t', pushRR rr t off = some (b, t') ∧ NZo (some t') := by
  obtain ⟨nb, t1, h1, hn1⟩ := pushName_total hsat rr.domain hok.1 t off hoff ht
  obtain ⟨rb, t2, h2, hn2⟩ := pushRData_total hsat rr hok.2 t1
    (off + (nb ++ u16 rr.rrtype ++ u16 rr.cls ++ u32 rr.ttl).length + 2) (by omega) hn1
  exact ⟨_, _, by simp only [pushRR, h1, h2, bind, Option.bind, pure]; rfl, hn2⟩

theorem pushSection_total (hsat : Generated.Dns.offsetSaturates = true) (size : Nat) (rrs : List RR)
    (hok : ∀ rr ∈ rrs, RREnc rr) :
    ∀ (buf : Bytes) (t : Tree) (n : Nat), 1 ≤ buf.length → NZo (some t) →
      ∃ buf' t' n' tr, pushSection size rrs buf t n = some (buf', t', n', tr) ∧ 1 ≤ buf'.length ∧ NZo (some t') := by
  induction rrs with
  | nil => intro buf t n hb ht; exact ⟨_, _, _, _, rfl, hb, ht⟩
  | cons rr rest ih =>
    intro buf t n hb ht
    obtain ⟨b, t', h, hn⟩ := pushRR_total hsat rr (hok rr (by simp)) t buf.length hb ht
    simp only [pushSection, h]
    split
    · exact ⟨_, _, _, _, rfl, hb, hn⟩
    · exact ih (fun x hx => hok x (by simp [hx])) _ _ _ (by simp; omega) hn

/-- what `serialise_with_size` requires of a message -/
structure PktEnc (p : Pkt) : Prop where
  rcode : p.rcode < 4096
  qname : WfName p.qdomain
  an : ∀ rr ∈ p.answer, RREnc rr
  ns : ∀ rr ∈ p.nameserver, RREnc rr
  ad : ∀ rr ∈ p.additional, RREnc rr

theorem additionalOf_enc (p : Pkt) (h : PktEnc p) : ∀ rr ∈ additionalOf p, RREnc rr := by
  unfold additionalOf
  split
  · intro rr hrr
    rcases List.mem_append.mp hrr with h1 | h1
    · exact h.ad rr h1
    · cases List.mem_singleton.mp h1
      exact ⟨fun l hl => (nomatch hl), rfl⟩
  · exact h.ad

/-- a section after the first: skipped once truncation has begun, else written; either way the encoder goes on -/
theorem nextSection_total (hsat : Generated.Dns.offsetSaturates = true) (size : Nat) {rrs : List RR} (hok : ∀ rr ∈ rrs, RREnc rr)
    (tr : Bool) (buf : Bytes) (t : Tree) (hb : 1 ≤ buf.length) (ht : NZo (some t)) :
    ∃ buf' t' n' tr', (if tr then some (buf, t, 0, true) else pushSection size rrs buf t 0) = some (buf', t', n', tr') ∧
      1 ≤ buf'.length ∧ NZo (some t') := by
  cases tr with
  | true => exact ⟨_, _, _, _, rfl, hb, ht⟩
  | false => exact pushSection_total hsat size rrs hok buf t 0 hb ht

/-- **the encoder is total**: no assertion, `unwrap`, `unreachable!` or arithmetic check in
    `serialise_with_size` and everything below it can fire, for messages of any size and every limit the function
    accepts (it asserts `size >= 512`) -/
theorem serialise_total (hsat : Generated.Dns.offsetSaturates = true) (p : Pkt) (hp : PktEnc p) (size : Nat) (hs : 512 ≤ size) :
    ∃ wire, serialiseWithSize p size = some wire := by
  have hh := hdr_len p
  obtain ⟨qb, t0, h0, hn0⟩ := pushName_total hsat p.qdomain hp.qname root (hdrOf p).length (by omega) nzo_root
  obtain ⟨buf1, t1, an, tr1, h1, hb1, hn1⟩ := pushSection_total hsat size p.answer hp.an
    (hdrOf p ++ qb ++ u16 p.qtype ++ u16 p.qclass) t0 0 (by simp only [List.length_append]; omega) hn0
  obtain ⟨buf2, t2, nsn, tr2, h2, hb2, hn2⟩ := nextSection_total hsat size hp.ns tr1 buf1 t1 hb1 hn1
  obtain ⟨buf3, t3, adn, tr3, h3, -⟩ := nextSection_total hsat size (additionalOf_enc p hp) tr2 buf2 t2 hb2 hn2
  unfold serialiseWithSize
  simp only [show ¬ size < 512 by omega, show ¬ p.rcode ≥ 4096 by have := hp.rcode; omega, if_false, h0, h1, h2, h3]
  split <;> exact ⟨_, rfl⟩

end Erbium.DnsWire
