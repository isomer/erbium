import ErbiumModel.Lemmas.Safe
import ErbiumModel.Model.Cursor
/-! The contract of every `pktparser::Buffer` method: on a well-formed cursor (`off ≤ len`) no method panics, the
    cursor stays well-formed over the same data and reading methods advance it. -/
namespace Erbium.Cursor
open Erbium.Safe Erbium.Generated.Pkt

def Buf.WF (b : Buf) : Prop := b.off ≤ b.data.length

/-- `b'` is `b` advanced by `n` octets over the same data, and still inside it -/
def Adv (b b' : Buf) (n : Nat) : Prop := b'.data = b.data ∧ b'.off = b.off + n ∧ b'.WF

theorem Adv.trans {b b1 b2 : Buf} {n m : Nat} (h1 : Adv b b1 n) (h2 : Adv b1 b2 m) : Adv b b2 (n + m) := by
  obtain ⟨d1, o1, w1⟩ := h1; obtain ⟨d2, o2, w2⟩ := h2
  exact ⟨by rw [d2, d1], by rw [o2, o1]; omega, w2⟩

theorem Adv.wf {b b' : Buf} {n : Nat} (h : Adv b b' n) : b'.WF := h.2.2
/-- the loops of the decoders run on fuel above the octets left: a step that advances uses up some -/
theorem Adv.fuel {b b' : Buf} {n fuel : Nat} (h : Adv b b' n) (hn : 1 ≤ n) (hf : b.data.length - b.off < fuel + 1) :
    b'.data.length - b'.off < fuel := by
  obtain ⟨hd, ho, hw⟩ := h
  unfold Buf.WF at hw
  rw [hd, ho] at *; omega

/-- however far a decoder has read into `d`, fuel above the length of `d` is enough for what is left -/
theorem Adv.fuel_new {d : List Nat} {b : Buf} {n : Nat} (h : Adv (Buf.new d) b n) : b.data.length - b.off < d.length + 1 := by
  rw [h.1]; exact Nat.lt_succ_of_le (Nat.sub_le ..)

theorem new_wf (d : List Nat) : (Buf.new d).WF := by simp [Buf.new, Buf.WF]

theorem remaining_spec (b : Buf) (h : b.WF) : Post b.remaining (fun r => r = b.data.length - b.off) := by
  unfold Buf.remaining; exact post_subU h

theorem getU8_spec (b : Buf) : Post b.getU8 (fun r => Adv b r.2 1) := by
  unfold Buf.getU8
  refine Post.ite (fun h => ?_) fun _ => Post.err
  have h : b.off < b.data.length := of_decide_eq_true h
  exact Post.bind (post_idx h) fun _ _ => ⟨rfl, rfl, h⟩

theorem peekU8_spec (b : Buf) : Post b.peekU8 (fun _ => True) := by
  unfold Buf.peekU8
  exact Post.ite (fun h => (post_idx (of_decide_eq_true h)).mono fun _ _ => trivial) fun _ => Post.err

theorem getBytes_spec (b : Buf) (n : Nat) : Post (b.getBytes n) (fun r => Adv b r.2 n ∧ r.1.length = n) := by
  unfold Buf.getBytes
  refine Post.ite (fun h => ?_) fun _ => Post.err
  have h : b.off + n ≤ b.data.length := of_decide_eq_true h
  exact Post.bind (post_slice (Nat.le_add_right ..) h) fun _ hr => ⟨⟨rfl, rfl, h⟩, hr.2.trans (Nat.add_sub_cancel_left ..)⟩

theorem getBuffer_spec (b : Buf) (n : Nat) :
    Post (b.getBuffer n) (fun r => Adv b r.2 n ∧ r.1.WF) := by
  unfold Buf.getBuffer
  refine Post.ite (fun h => ?_) fun _ => Post.err
  have h : b.off + n ≤ b.data.length := of_decide_eq_true h
  exact Post.bind (post_slice (Nat.le_add_right ..) h) fun _ _ => ⟨⟨rfl, rfl, h⟩, Nat.zero_le _⟩

/-- `get_bytes(n)` then `try_into().unwrap()` into `[u8; n]`: the shape of `get_be16` and `get_be32` -/
theorem getArray_spec {α : Type} (b : Buf) (site : String) (n : Nat) (f : List Nat → α) :
    Post (b.getBytes n >>= fun r => exactLen site n r.1 >>= fun a => pure (f a, r.2)) (fun r => Adv b r.2 n) :=
  Post.bind (getBytes_spec b n) fun _ h => Post.bind (post_exactLen h.2) fun _ _ => h.1

theorem getBe16_spec (b : Buf) : Post b.getBe16 (fun r => Adv b r.2 2) := getArray_spec b _ 2 be

theorem getBe32_spec (b : Buf) : Post b.getBe32 (fun r => Adv b r.2 4) := getArray_spec b _ 4 be

theorem getIpv4_spec (b : Buf) : Post b.getIpv4 (fun r => Adv b r.2 4) := by
  unfold Buf.getIpv4
  refine Post.bind (getBytes_spec b 4) ?_
  rintro ⟨bs, b'⟩ ⟨ha, hl⟩
  simp only at hl
  refine Post.bind (post_idx (by omega)) fun _ _ => ?_
  refine Post.bind (post_idx (by omega)) fun _ _ => ?_
  refine Post.bind (post_idx (by omega)) fun _ _ => ?_
  exact Post.bind (post_idx (by omega)) fun _ _ => ha

theorem getTlv_spec (b : Buf) : Post b.getTlv (fun r => ∃ n, Adv b r.2 (2 + n)) := by
  unfold Buf.getTlv
  refine Post.bind (getBytes_spec b 2) ?_
  rintro ⟨tl, b1⟩ ⟨ha, hl⟩
  simp only at hl
  refine Post.bind (post_idx (by omega)) fun _ _ => ?_
  refine Post.bind (post_idx (by omega)) fun l _ => ?_
  exact Post.bind (getBytes_spec b1 l) fun _ ha2 => ⟨l, ha.trans ha2.1⟩

theorem getLabel_spec (b : Buf) : Post b.getLabel (fun r => Adv b r.2 (1 + r.1.length)) := by
  unfold Buf.getLabel
  refine Post.bind (getU8_spec b) ?_
  rintro ⟨l, b1⟩ ha
  refine Post.mono (getBytes_spec b1 l) ?_
  rintro ⟨v, b2⟩ ⟨ha2, hl⟩
  simp only at hl ⊢
  rw [hl]; exact ha.trans ha2

/-- the label loop: with fuel above the octets left it never runs out (each label consumes at least one) -/
theorem getDomain_spec (fuel : Nat) (b : Buf) (acc : List (List Nat)) (hf : b.data.length - b.off < fuel) :
    Post (b.getDomain fuel acc) (fun r => ∃ n, 1 ≤ n ∧ Adv b r.2 n) := by
  induction fuel generalizing b acc with
  | zero => omega
  | succ fuel ih =>
    unfold Buf.getDomain
    refine Post.bind (getLabel_spec b) ?_
    rintro ⟨l, b1⟩ ha
    simp only at ha
    dsimp only
    split
    · exact ⟨1 + l.length, by omega, ha⟩
    · refine Post.mono (ih b1 (l :: acc) (ha.fuel (by omega) hf)) ?_
      rintro r ⟨n, hn, ha2⟩
      exact ⟨1 + l.length + n, by omega, ha.trans ha2⟩

theorem getDomains_spec (fuel : Nat) (b : Buf) (acc : List (List (List Nat))) (hw : b.WF)
    (hf : b.data.length - b.off < fuel) :
    Post (b.getDomains fuel acc) (fun r => r.2.WF) := by
  induction fuel generalizing b acc with
  | zero => omega
  | succ fuel ih =>
    unfold Buf.getDomains
    refine Post.bind (remaining_spec b hw) fun r _ => ?_
    split
    · exact hw
    · refine Post.bind (getDomain_spec (b.data.length + 1) b [] (by omega)) ?_
      rintro ⟨d, b1⟩ ⟨n, hn, ha⟩
      exact ih b1 (d :: acc) ha.wf (ha.fuel hn hf)

theorem setOffset_spec (b : Buf) (o : Nat) : Post (b.setOffset o) (fun r => r.WF ∧ r.data = b.data) := by
  unfold Buf.setOffset
  exact Post.ite (fun h => ⟨(of_decide_eq_true h : o ≤ b.data.length), rfl⟩) fun _ => Post.err

theorem skip_spec (b : Buf) (s : Nat) : Post (b.skip s) (fun r => r.WF ∧ r.data = b.data) := setOffset_spec b _

end Erbium.Cursor
