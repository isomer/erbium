import ErbiumModel.Lemmas.DnsTree
/-! Compression never lengthens a name: what `push_compressed_domain` writes is at most the name written in full. -/
namespace Erbium.DnsWire

theorem pointerBytes_len {d : Nat} {b : Bytes} (h : pointerBytes d = some b) : b.length = 2 := by
  unfold pointerBytes at h
  split at h
  · cases h
  · simp only [Option.some.injEq] at h; subst h; rfl

theorem pushLabel_len {l : Label} {b : Bytes} (h : pushLabel l = some b) : b.length = l.length + 1 := by
  unfold pushLabel at h
  split at h
  · cases h
  · simp only [Option.some.injEq] at h; subst h; simp

theorem pushPrefixR_len {rl : List Label} (hrl : WfName rl) {node : Option Tree} {off : Nat} {bytes : Bytes}
    {ret node' : Option Tree} (h : pushPrefixR rl node off = some (bytes, ret, node')) : bytes.length ≤ (plain rl).length := by
  fun_induction pushPrefixR rl node off generalizing bytes ret node' with
  | case1 | case4 | case5 | case8 => cases h  -- the arms that panic
  | case2 =>  -- last label, no node for it: written in full
    obtain ⟨b, hb, heq⟩ := Option.map_eq_some_iff.mp h
    cases heq; simp only [plain, List.length_cons, List.length_append, List.length_nil, pushLabel_len hb]; omega
  | case3 =>  -- last label, node found: pointer
    obtain ⟨b, hb, heq⟩ := Option.map_eq_some_iff.mp h
    have := hrl.head.1
    cases heq; simp only [plain, List.length_cons, List.length_append, List.length_nil, pointerBytes_len hb]; omega
  | case6 =>  -- the deeper call ended in a pointer
    rename_i hrec ih
    cases h; have := ih hrl.tail hrec; simp only [plain, List.length_cons, List.length_append]; omega
  | case7 =>  -- no node for this label: written in full behind the deeper ones
    rename_i hrec ih
    obtain ⟨b, hb, heq⟩ := Option.map_eq_some_iff.mp h
    cases heq; have := ih hrl.tail hrec
    simp only [plain, List.length_cons, List.length_append, pushLabel_len hb]; omega
  | case9 =>  -- node found: pointer behind the deeper labels
    rename_i hrec ih
    have := hrl.head.1
    obtain ⟨b, hb, heq⟩ := Option.map_eq_some_iff.mp h
    cases heq; have := ih hrl.tail hrec
    simp only [plain, List.length_cons, List.length_append, pointerBytes_len hb]; omega

theorem pushName_len {d : Name} (hd : WfName d) {t t' : Tree} {off : Nat} {bytes : Bytes}
    (h : pushName d t off = some (bytes, t')) : bytes.length ≤ wireLen d := by
  rw [wireLen_eq, ← plain_length_reverse]
  unfold pushName at h
  split at h
  · cases h; exact Nat.le_add_left ..
  split at h
  · cases h
  · rename_i hp; cases h; exact Nat.le_succ_of_le (pushPrefixR_len hd.reverse hp)
  · rename_i hp; cases h; rw [List.length_append]; exact Nat.add_le_add_right (pushPrefixR_len hd.reverse hp) 1

end Erbium.DnsWire
