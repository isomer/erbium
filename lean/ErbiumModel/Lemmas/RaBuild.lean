import ErbiumModel.Lemmas.RaCodec
/-! The advertisement builder against the manual: `specRa ∘ build` is the documented `expected`, segment by segment
    (`specRa_build`); where an option of a built advertisement comes from (`mem_build_options`), and that a
    configuration the wire format can carry (`CfgOK`) builds options it can carry (`cfgok_options`). -/
namespace Erbium.RaCodec
open Erbium.Radv Erbium.RaRfc

theorem seg_prefixes (ps : List Prefix) (h : ∀ p ∈ ps, p.len ≤ 128) :
    (ps.map NdOpt.prefixInfo).filterMap specOpt =
    ps.map fun p => Opt.prefixInfo p.len p.onlink p.autonomous (min p.valid 0xffffffff) (min p.preferred 0xffffffff)
      (p.addr / 2 ^ (128 - p.len) * 2 ^ (128 - p.len)) := by
  induction ps with
  | nil => rfl
  | cons p ps ih =>
    simp only [List.map_cons, List.filterMap_cons, specOpt]
    rw [ih (fun x hx => h x (by simp [hx])), maskPrefix_eq _ _ (h p (by simp))]

theorem seg_rdnss (ov : Option (List Nat)) (lt : Nat) :
    (match ov with | some v => [NdOpt.rdnss lt v] | none => []).filterMap specOpt =
    (match ov with | some (s :: ss) => [Opt.rdnss (min lt 0xffffffff) (s :: ss)] | _ => []) := by
  cases ov with
  | none => rfl
  | some v => cases v <;> simp [specOpt]

theorem seg_dnssl (ov : Option (List Bytes)) (lt : Nat) :
    (match ov with | some v => [NdOpt.dnssl lt v] | none => []).filterMap specOpt =
    (match ov with | some (d :: ds) => [Opt.dnssl (min lt 0xffffffff) ((d :: ds).map RaRfc.splitDots)] | _ => []) := by
  cases ov with
  | none => rfl
  | some v => cases v <;> simp [specOpt]

theorem seg_pref64 (lt p l : Nat) :
    [NdOpt.pref64 lt l p].filterMap specOpt =
    (if [32, 40, 48, 56, 64, 96].contains l then [Opt.pref64 (min (lt / 8 * 8) 65528) l (p / 2 ^ (128 - l) * 2 ^ (128 - l))] else []) := by
  cases hc : plc l with
  | none =>
    rw [if_neg (mt List.contains_iff_mem.mp ((plc_none_iff l).mp hc))]
    simp only [List.filterMap_cons, specOpt, hc, Option.map_none, List.filterMap_nil]
  | some c =>
    have hv : min (lt / 8) 8191 * 8 = min (lt / 8 * 8) 65528 := by omega
    rw [if_pos (List.contains_iff_mem.mpr (plc_mem hc))]
    simp only [List.filterMap_cons, specOpt, hc, Option.map_some, List.filterMap_nil,
      maskPrefix_eq _ _ (by have := plc_bounds hc; omega : l ≤ 128), hv]

theorem ltOf_eq (t : Tri Nat) : t.alwaysUnwrapOr (3 * maxRtrAdvInterval) = (match t with | .value v => v | _ => 1800) := by
  cases t <;> rfl

theorem app_congr {α : Type} {a a' b b' : List α} (h1 : a = a') (h2 : b = b') : a ++ b = a' ++ b' := by rw [h1, h2]

/-- **the builder produces what the manual documents**: for every configuration, the values the RFC decoder is
    expected to read from the built advertisement are the documented ones (top-level settings as defaults, `null`
    suppressing an option, `$self6` replaced, empty lists sending nothing) -/
theorem specRa_build (top : Top) (i : Intf) (ll : Option Bytes) (mtu : Option Nat) (self6 dl : Nat)
    (hp : ∀ p ∈ i.prefixes, p.len ≤ 128) :
    specRa (build top i ll mtu self6 dl) = expected top i ll mtu self6 dl := by
  unfold specRa build expected
  simp only [List.filterMap_append]
  rw [Ra.mk.injEq]
  refine ⟨rfl, rfl, rfl, ?_, rfl, rfl, ?_⟩
  · cases i.lifetime <;> rfl
  · refine app_congr (app_congr (app_congr (app_congr (app_congr (app_congr ?_ ?_) ?_) ?_) ?_) ?_) ?_
    · cases ll <;> rfl
    · cases mtu <;> rfl
    · exact seg_prefixes _ hp
    · rw [ltOf_eq]; exact seg_rdnss _ _
    · rw [ltOf_eq]; exact seg_dnssl _ _
    · cases i.pref64 with
      | none => rfl
      | some v => obtain ⟨lt, p, l⟩ := v; exact seg_pref64 lt p l
    · cases i.captivePortal <;> simp only [Tri.orOpt] <;> cases top.captivePortal <;> rfl

/-- what a configuration (with the interface's link-layer address, MTU and own address) must satisfy for the wire
    format to be able to carry it; everything else is clamped -/
structure CfgOK (top : Top) (i : Intf) (ll : Option Bytes) (mtu : Option Nat) (self6 : Nat) : Prop where
  hop : i.hoplimit < 256
  ll : ∀ m, ll = some m → m.length = 6
  mtu : ∀ m, mtu = some m → m < 4294967296
  prefixes : ∀ p ∈ i.prefixes, p.len ≤ 128 ∧ p.addr < 2 ^ 128
  servers : ∀ v, i.rdnss.unwrapOr (top.dnsServers6.map fun ip => if ip = 0 then self6 else ip) = some v →
    v.length ≤ 127 ∧ ∀ s ∈ v, s < 2 ^ 128
  domains : ∀ v, i.dnssl.unwrapOr top.dnsSearch = some v →
    (∀ d ∈ v, DomainOK d) ∧ (v.flatMap encodeDomain).length ≤ 2024
  pref64 : ∀ lt p l, i.pref64 = some (lt, p, l) → p < 2 ^ 128
  url : ∀ u, i.captivePortal.orOpt top.captivePortal = some u → (∀ b ∈ u, b ≠ 0) ∧ u.length ≤ 2030

theorem build_options (top : Top) (i : Intf) (ll : Option Bytes) (mtu : Option Nat) (self6 dl : Nat) :
    (build top i ll mtu self6 dl).options =
      ll.toList.map .sourceLL ++ mtu.toList.map .mtu ++ i.prefixes.map .prefixInfo ++
      (i.rdnss.unwrapOr (top.dnsServers6.map fun ip => if ip = 0 then self6 else ip)).toList.map
        (.rdnss (i.rdnssLifetime.alwaysUnwrapOr 1800)) ++
      (i.dnssl.unwrapOr top.dnsSearch).toList.map (.dnssl (i.dnsslLifetime.alwaysUnwrapOr 1800)) ++
      i.pref64.toList.map (fun v => .pref64 v.1 v.2.2 v.2.1) ++
      (i.captivePortal.orOpt top.captivePortal).toList.map .captivePortal := by
  refine app_congr (app_congr (app_congr (app_congr (app_congr (app_congr ?_ ?_) rfl) ?_) ?_) ?_) ?_
  · cases ll <;> rfl
  · cases mtu <;> rfl
  · cases i.rdnss.unwrapOr (top.dnsServers6.map fun ip => if ip = 0 then self6 else ip) <;> rfl
  · cases i.dnssl.unwrapOr top.dnsSearch <;> rfl
  · cases i.pref64 <;> rfl
  · cases i.captivePortal.orOpt top.captivePortal <;> rfl

/-- where an option of a built advertisement comes from -/
theorem mem_build_options {top : Top} {i : Intf} {ll : Option Bytes} {mtu : Option Nat} {self6 dl : Nat} {o : NdOpt} :
    o ∈ (build top i ll mtu self6 dl).options ↔
      (∃ m, ll = some m ∧ .sourceLL m = o) ∨ (∃ m, mtu = some m ∧ .mtu m = o) ∨ (∃ p ∈ i.prefixes, .prefixInfo p = o) ∨
      (∃ v, i.rdnss.unwrapOr (top.dnsServers6.map fun ip => if ip = 0 then self6 else ip) = some v ∧
        .rdnss (i.rdnssLifetime.alwaysUnwrapOr 1800) v = o) ∨
      (∃ v, i.dnssl.unwrapOr top.dnsSearch = some v ∧ .dnssl (i.dnsslLifetime.alwaysUnwrapOr 1800) v = o) ∨
      (∃ v, i.pref64 = some v ∧ .pref64 v.1 v.2.2 v.2.1 = o) ∨
      (∃ u, i.captivePortal.orOpt top.captivePortal = some u ∧ .captivePortal u = o) := by
  simp only [build_options, List.mem_append, List.mem_map, Option.mem_toList, or_assoc]

theorem cfgok_options {top : Top} {i : Intf} {ll : Option Bytes} {mtu : Option Nat} {self6 : Nat}
    (h : CfgOK top i ll mtu self6) (dl : Nat) : ∀ o ∈ (build top i ll mtu self6 dl).options, OptOK o := by
  intro o ho
  rcases mem_build_options.mp ho with ⟨m, hm, rfl⟩ | ⟨m, hm, rfl⟩ | ⟨p, hp, rfl⟩ | ⟨v, hv, rfl⟩ | ⟨v, hv, rfl⟩ |
    ⟨⟨lt, p, l⟩, hv, rfl⟩ | ⟨u, hu, rfl⟩
  · exact h.ll m hm
  · exact h.mtu m hm
  · exact h.prefixes p hp
  · exact h.servers v hv
  · exact h.domains v hv
  · exact h.pref64 lt p l hv
  · exact h.url u hu

end Erbium.RaCodec
