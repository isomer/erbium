import ErbiumModel.Lemmas.DhcpWire
import ErbiumModel.Lemmas.Except
/-! What the DHCP decoder yields. `parse_ok` reads `parse pkt = .ok m` field by field; from it, every message decoded
    from an octet string is well formed (`parse_wf`: the hypothesis of `parse_serialise`) and consists of octets of the
    input (`parse_octets`: the hypotheses of `serialise_octets`). -/
namespace Erbium.DhcpWire

theorem optAppend_keys (m : Opts) (c : Nat) (v : List Nat) :
    (optAppend m c v).map (·.1) = if c ∈ m.map (·.1) then m.map (·.1) else m.map (·.1) ++ [c] := by
  induction m with
  | nil => simp [optAppend]
  | cons e es ih =>
    obtain ⟨k, w⟩ := e
    by_cases hk : k = c
    · subst hk; simp [optAppend]
    · have hk' : ¬ c = k := fun h => hk h.symm
      simp only [optAppend, hk, if_false, List.map_cons, ih, List.mem_cons, hk', false_or]
      split <;> simp

theorem optAppend_forall {P : Nat × List Nat → Prop} {m : Opts} {c : Nat} {v : List Nat} (hm : ∀ e ∈ m, P e)
    (hnew : P (c, v)) (happ : ∀ w, P (c, w) → P (c, w ++ v)) : ∀ e ∈ optAppend m c v, P e := by
  induction m with
  | nil => exact List.forall_mem_singleton.2 hnew
  | cons x xs ih =>
    obtain ⟨k, w⟩ := x
    have ⟨hx, hxs⟩ := List.forall_mem_cons.1 hm
    unfold optAppend
    split
    · next hk => subst hk; exact List.forall_mem_cons.2 ⟨happ w hx, hxs⟩
    · exact List.forall_mem_cons.2 ⟨hx, ih hxs⟩

theorem optAppend_wf (m : Opts) (c : Nat) (v : List Nat) (h : OptsWf m) (h0 : c ≠ 0) (h255 : c ≠ 255) :
    OptsWf (optAppend m c v) := by
  refine ⟨?_, optAppend_forall h.2 ⟨h0, h255⟩ fun _ hw => hw⟩
  rw [optAppend_keys]
  split
  · exact h.1
  · next hc =>
    exact List.nodup_append.mpr ⟨h.1, List.pairwise_singleton _ c, fun a ha b hb hab =>
      hc (List.mem_singleton.1 hb ▸ hab ▸ ha)⟩

/-- the decoder's option table is `m` extended by `optAppend` with codes and values taken from the buffer -/
theorem parseOptions_ind {P : Opts → Prop} {buf : List Nat} {m o : Opts} (h : parseOptions buf m = .ok o) (hm : P m)
    (step : ∀ m c v, P m → c ≠ 0 → c ≠ 255 → c ∈ buf → v.Sublist buf → P (optAppend m c v)) : P o := by
  fun_induction parseOptions buf m with
  | case1 m => simp at h  -- buffer exhausted
  | case2 m t ih =>  -- pad
    exact ih h hm fun m c v hm h0 h255 hc hv => step m c v hm h0 h255 (.tail _ hc) (.cons _ hv)
  | case3 m t _ => exact Except.ok.inj h ▸ hm  -- end marker
  | case4 m c hc h255 => simp at h  -- code without length
  | case5 m c hc h255 l t' hl ih =>  -- an option
    refine ih h (step m c _ hm hc h255 (.head _) (.cons _ (.cons _ (List.take_sublist ..)))) fun m c v hm h0 h255 hc hv => ?_
    exact step m c v hm h0 h255 (.tail _ (.tail _ (List.mem_of_mem_drop hc)))
      (.cons _ (.cons _ (hv.trans (List.drop_sublist ..))))
  | case6 m c hc h255 l t' hl => simp at h  -- value cut short

theorem parseOptions_wf (buf : List Nat) (m o : Opts) (h : parseOptions buf m = .ok o) (hm : OptsWf m) :
    OptsWf o :=
  parseOptions_ind h hm fun m c v hm h0 h255 _ _ => optAppend_wf m c v hm h0 h255

theorem nullTerminated_sublist (v : List Nat) : (nullTerminated v).Sublist v := List.takeWhile_sublist _

theorem nullTerminated_ne_zero (v : List Nat) : ∀ b ∈ nullTerminated v, b ≠ 0 := fun b hb => by
  simpa using List.all_eq_true.mp (List.all_takeWhile (l := v) (p := (· != 0))) b hb

theorem be32_lt {a b c d : Nat} (ha : a < 256) (hb : b < 256) (hc : c < 256) (hd : d < 256) :
    be32 a b c d < 2 ^ 32 := Digits.lt32 ha hb hc hd

theorem be16_lt {a b : Nat} (ha : a < 256) (hb : b < 256) : be16 a b < 65536 := Digits.lt16 ha hb

/-- RFC 2131 figure 1 as the decoder reads it -/
theorem parse_ok {pkt : List Nat} {m : Dhcp} (h : parse pkt = .ok m) :
    240 ≤ pkt.length ∧ m.hlen ≤ 16 ∧
    m.op = pkt.getD 0 0 ∧ m.htype = pkt.getD 1 0 ∧ m.hlen = pkt.getD 2 0 ∧ m.hops = pkt.getD 3 0 ∧
    m.xid = be32 (pkt.getD 4 0) (pkt.getD 5 0) (pkt.getD 6 0) (pkt.getD 7 0) ∧
    m.secs = be16 (pkt.getD 8 0) (pkt.getD 9 0) ∧ m.flags = be16 (pkt.getD 10 0) (pkt.getD 11 0) ∧
    m.ciaddr = be32 (pkt.getD 12 0) (pkt.getD 13 0) (pkt.getD 14 0) (pkt.getD 15 0) ∧
    m.yiaddr = be32 (pkt.getD 16 0) (pkt.getD 17 0) (pkt.getD 18 0) (pkt.getD 19 0) ∧
    m.siaddr = be32 (pkt.getD 20 0) (pkt.getD 21 0) (pkt.getD 22 0) (pkt.getD 23 0) ∧
    m.giaddr = be32 (pkt.getD 24 0) (pkt.getD 25 0) (pkt.getD 26 0) (pkt.getD 27 0) ∧
    m.chaddr = ((pkt.drop 28).take 16).take m.hlen ∧
    m.sname = nullTerminated ((pkt.drop 44).take 64) ∧
    m.file = nullTerminated ((pkt.drop 108).take 128) ∧
    (pkt.drop 236).take 4 = magic ∧
    parseOptions (pkt.drop 240) [] = .ok m.options := by
  unfold parse at h
  split at h
  · rename_i op htype hlen hops x0 x1 x2 x3 s0 s1 f0 f1 c0 c1 c2 c3 y0 y1 y2 y3 i0 i1 i2 i3 g0 g1 g2 g3 rest
    -- `ite_error_eq_ok` turns the chain of guards into a conjunction in one pass; splitting the `if`s one by one
    -- is far slower to check, because every split rewrites the whole remaining term
    simp only [ite_error_eq_ok, List.drop_drop, Nat.reduceAdd] at h
    obtain ⟨-, h2, -, -, h⟩ := h
    split at h
    · rename_i m0 m1 m2 m3 rest' hrest
      simp only [ite_error_eq_ok] at h
      obtain ⟨h5, h⟩ := h
      split at h
      · simp at h
      · rename_i opts hopts
        have hlen := congrArg List.length hrest
        simp only [List.length_drop, List.length_cons] at hlen
        obtain rfl := Except.ok.inj h
        refine ⟨by simp only [List.length_cons]; omega, Nat.not_lt.mp h2, rfl, rfl, rfl, rfl, rfl, rfl, rfl, rfl, rfl,
          rfl, rfl, rfl, rfl, rfl, ?_, ?_⟩
        · show (List.drop 208 rest).take 4 = magic
          rw [hrest]; exact Decidable.not_not.mp h5
        · show parseOptions (List.drop 212 rest) [] = .ok opts
          rw [show (212 : Nat) = 208 + 4 from rfl, ← List.drop_drop, hrest]; exact hopts
    · simp at h
  · simp at h

theorem parse_wf (pkt : List Nat) (hb : ∀ b ∈ pkt, b < 256) (m : Dhcp) (h : parse pkt = .ok m) : Wf m := by
  have hb : Octets pkt := hb
  obtain ⟨hl, h16, op, htype, hlen, hops, xid, secs, flags, ci, yi, si, gi, ch, sn, fi, -, ho⟩ := parse_ok h
  have hch : m.chaddr.length = m.hlen := by
    rw [ch]; simp only [List.length_take, List.length_drop]; omega
  exact {
    op := op ▸ hb.getD _, htype := htype ▸ hb.getD _, hops := hops ▸ hb.getD _
    hlen := hch.symm, chaddr := hch ▸ h16
    xid := xid ▸ be32_lt (hb.getD _) (hb.getD _) (hb.getD _) (hb.getD _)
    secs := secs ▸ be16_lt (hb.getD _) (hb.getD _)
    flags := flags ▸ be16_lt (hb.getD _) (hb.getD _)
    ciaddr := ci ▸ be32_lt (hb.getD _) (hb.getD _) (hb.getD _) (hb.getD _)
    yiaddr := yi ▸ be32_lt (hb.getD _) (hb.getD _) (hb.getD _) (hb.getD _)
    siaddr := si ▸ be32_lt (hb.getD _) (hb.getD _) (hb.getD _) (hb.getD _)
    giaddr := gi ▸ be32_lt (hb.getD _) (hb.getD _) (hb.getD _) (hb.getD _)
    sname := sn ▸ ⟨Nat.le_trans (nullTerminated_sublist _).length_le (List.length_take_le ..), nullTerminated_ne_zero _⟩
    file := fi ▸ ⟨Nat.le_trans (nullTerminated_sublist _).length_le (List.length_take_le ..), nullTerminated_ne_zero _⟩
    options := parseOptions_wf _ _ _ ho ⟨List.nodup_nil, nofun⟩ }

theorem parseOptions_octets (buf : List Nat) (m o : Opts) (h : parseOptions buf m = .ok o) (hb : Octets buf)
    (hm : ∀ e ∈ m, e.1 < 256 ∧ Octets e.2) : ∀ e ∈ o, e.1 < 256 ∧ Octets e.2 :=
  parseOptions_ind (P := fun o => ∀ e ∈ o, e.1 < 256 ∧ Octets e.2) h hm fun _ c _ hm _ _ hc hv =>
    optAppend_forall hm ⟨hb c hc, hb.sublist hv⟩ fun _ hw => ⟨hw.1, octets_append.2 ⟨hw.2, hb.sublist hv⟩⟩

theorem parse_octets (pkt : List Nat) (hb : Octets pkt) (m : Dhcp) (h : parse pkt = .ok m) :
    Octets m.chaddr ∧ Octets m.sname ∧ Octets m.file ∧ ∀ e ∈ m.options, e.1 < 256 ∧ Octets e.2 := by
  obtain ⟨-, -, -, -, -, -, -, -, -, -, -, -, -, ch, sn, fi, -, ho⟩ := parse_ok h
  exact ⟨ch ▸ (((hb.drop _).take _).take _), sn ▸ ((hb.drop _).take _).sublist (nullTerminated_sublist _),
    fi ▸ ((hb.drop _).take _).sublist (nullTerminated_sublist _), parseOptions_octets _ _ _ ho (hb.drop _) nofun⟩

end Erbium.DhcpWire
