import ErbiumModel.Model.DhcpServer
import ErbiumModel.Lemmas.Keyed
/-! The response under construction (`Resp`): what `setOpt` does to the three-state table (`ropt`) and to what is
    sent (`lookupOpt ∘ toOptions`); and the two ends of a handling: when `plan` says "allocate", and the options of
    the reply built from the response. -/
namespace Erbium.Dhcp

theorem ropt_setOpt (r : Resp) (k : Nat) (v : Option Bytes) (k' : Nat) :
    ropt (setOpt r k v) k' = if k' = k then some v else ropt r k' := by
  unfold ropt setOpt
  rw [find?_replace_key Prod.fst (k, v)]
  split <;> rfl

theorem toOptions_filter (l : List (Nat × Option Bytes)) (k : Nat) :
    (l.filter (·.1 != k)).filterMap keepSome = (l.filterMap keepSome).filter (·.1 != k) := by
  rw [List.filterMap_filter, List.filter_filterMap]
  congr 1; funext ⟨a, b⟩
  cases b <;> simp [keepSome, Option.filter]

theorem sent_setOpt (r : Resp) (k : Nat) (v : Option Bytes) (k' : Nat) :
    lookupOpt (toOptions (setOpt r k v)) k' = if k' = k then v else lookupOpt (toOptions r) k' := by
  unfold lookupOpt toOptions setOpt
  rw [List.filterMap_cons, toOptions_filter]
  cases v with
  | none => simp only [keepSome, Option.map_none]; rw [find?_filter_key Prod.fst]; split <;> rfl
  | some b => simp only [keepSome, Option.map_some]; rw [find?_replace_key Prod.fst (k, b)]; split <;> rfl

theorem reply_options (req : Req) (resp : Resp) (isReq : Bool) (x L k : Nat) :
    lookupOpt (reply req resp isReq x L).options k =
      if k = 51 then some (ser32 (L % 2 ^ 32))
      else if k = 54 then some (ser32 (if isReq then (optIp req.pkt.options 54).getD req.serverip else req.serverip))
      else if k = 53 ∧ isReq = true then some [5]
      else lookupOpt (toOptions resp) k := by
  have : Generated.Dhcp.offerHasLeaseTime = true := rfl
  simp only [reply, this, Bool.or_true, if_true, sent_setOpt]
  cases isReq <;> simp [sent_setOpt]

/-- an allocation planned by `go`: the kind of message it was called for, and the response of the two policy passes -/
theorem go_alloc {cfg req b c rq pool resp isReq} (h : plan.go cfg req b = .alloc c rq pool resp isReq) :
    isReq = b ∧ resp = (applyPolicies req (mapValuesL (implResolve req) cfg.policies)
      (applyPolicies req [buildDefault cfg req] (setOpt (setOpt {} 53 (some [2])) 54 (some (ser32 req.serverip)))).1).1 := by
  unfold plan.go at h
  simp only at h
  split at h
  · cases h
  · split at h
    · cases h
    · cases h; exact ⟨rfl, rfl⟩

/-- the plan says "allocate" only through `go`, and only for DISCOVER, or for REQUEST naming no server or one of ours -/
theorem plan_alloc {cfg req ids c rq pool resp isReq} (h : plan cfg req ids = .alloc c rq pool resp isReq) :
    plan.go cfg req isReq = .alloc c rq pool resp isReq ∧
    ((lookupOpt req.pkt.options 53 = some [1] ∧ isReq = false) ∨
     (lookupOpt req.pkt.options 53 = some [3] ∧ isReq = true ∧
       (optIp req.pkt.options 54 = none ∨ ∃ si, optIp req.pkt.options 54 = some si ∧ si ∈ ids))) := by
  unfold plan at h
  split at h
  · rename_i t ht
    split at h
    · rename_i htt
      rcases htt with rfl | rfl
      · cases (go_alloc h).1
        exact ⟨h, .inl ⟨ht, rfl⟩⟩
      · simp only [show ((3:Nat) == 3) = true from rfl, if_true] at h
        cases hsi : optIp req.pkt.options 54 with
        | none =>
          simp only [hsi] at h
          cases (go_alloc h).1
          exact ⟨h, .inr ⟨ht, rfl, .inl rfl⟩⟩
        | some si =>
          simp only [hsi] at h
          split at h
          · cases h
          · rename_i hc
            cases (go_alloc h).1
            exact ⟨h, .inr ⟨ht, rfl, .inr ⟨si, rfl, by simpa using hc⟩⟩⟩
    · cases h
  · cases h

end Erbium.Dhcp
