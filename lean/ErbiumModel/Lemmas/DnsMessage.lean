import ErbiumModel.Lemmas.DnsRecord
/-! Message-level round trip: a message that `serialise_with_size` writes completely is decoded by
    `get_dns` to the identical message — header bits, counts, question, the three sections with all
    their compressed names, and the EDNS pseudo-record folded back into the message's EDNS fields. -/
namespace Erbium.DnsWire

/-- a message as the decoder produces them (`parse` only returns messages of this shape) -/
structure WfPkt (p : Pkt) : Prop where
  qid : p.qid < 65536
  opcode : p.opcode < 16
  rcode : p.rcode < 4096
  qtype : p.qtype < 65536
  qclass : p.qclass < 65536
  qname : NameOK p.qdomain
  an : ∀ rr ∈ p.answer, RROK rr
  ns : ∀ rr ∈ p.nameserver, RROK rr
  ad : ∀ rr ∈ p.additional, RROK rr ∧ rr.rrtype ≠ T_OPT
  anN : p.answer.length < 65536
  nsN : p.nameserver.length < 65536
  adN : (additionalOf p).length < 65536
  bufsize : 512 ≤ p.bufsize ∧ p.bufsize < 65536
  /-- EDNS fields are consistent: present together with version 0, or absent with the defaults -/
  edns : (∃ e, p.edns = some e ∧ OptsOK e ∧ p.ednsVer = some 0) ∨
         (p.edns = none ∧ p.ednsVer = none ∧ p.ednsDo = false ∧ p.bufsize = 512 ∧ p.rcode < 16)

/-- the message was written completely (no section stopped early) -/
def Complete (p : Pkt) (size : Nat) (wire : Bytes) : Prop :=
  ∃ qb t0 buf1 t1 an buf2 t2 nsn t3 adn,
    pushName p.qdomain root (hdrOf p).length = some (qb, t0) ∧
    pushSection size p.answer (hdrOf p ++ qb ++ u16 p.qtype ++ u16 p.qclass) t0 0 = some (buf1, t1, an, false) ∧
    pushSection size p.nameserver buf1 t1 0 = some (buf2, t2, nsn, false) ∧
    pushSection size (additionalOf p) buf2 t2 0 = some (wire, t3, adn, false)

theorem complete_serialise (p : Pkt) (size : Nat) (wire : Bytes) (hs : 512 ≤ size) (hr : p.rcode < 4096)
    (h : Complete p size wire) : serialiseWithSize p size = some wire := by
  obtain ⟨qb, t0, buf1, t1, an, buf2, t2, nsn, t3, adn, h0, h1, h2, h3⟩ := h
  unfold serialiseWithSize
  simp only [show ¬ size < 512 by omega, show ¬ p.rcode ≥ 4096 by omega, if_false, h0, h1, h2, h3, Bool.false_eq_true]

/-! The TTL field of the OPT pseudo-record is `q·2²⁴ + version·2¹⁶ + e` with `q` the high octet of the extended
    rcode and `e` the DO bit (2¹⁵) or nothing; with version 0 its fields come back as base-2¹⁶ and base-2²⁴ digits. -/

theorem opt_ttl_ver (q e : Nat) (he : e < 65536) : (q * 16777216 + e) / 65536 % 256 = 0 := by
  rw [show q * 16777216 = q * 256 * 65536 from (Nat.mul_assoc q 256 65536).symm, (Digits.div_mod_digit _ he).1,
    Nat.mul_mod_left]

theorem opt_ttl_ercode (rc e : Nat) (h : rc < 65536) (he : e < 16777216) :
    (rc % 16 + (rc / 16 * 16777216 + e) / 16777216 * 16) % 65536 = rc := by
  rw [(Digits.div_mod_digit _ he).1, Nat.mod_add_div', Nat.mod_eq_of_lt h]

theorem opt_ttl_do (q : Nat) (d : Bool) :
    decide ((q * 16777216 + (if d then 32768 else 0)) / 32768 % 2 = 1) = d := by
  rw [show q * 16777216 = q * 256 * 2 * 32768 by rw [Nat.mul_assoc, Nat.mul_assoc]]
  cases d
  · rw [if_neg Bool.false_ne_true, Nat.add_zero, Nat.mul_div_cancel _ (by decide), Nat.mul_mod_left]; rfl
  · rw [if_pos rfl, ← Nat.succ_mul, Nat.mul_div_cancel _ (by decide), Nat.succ_eq_add_one, Nat.mul_add_mod']; rfl

theorem optRR_ttl (p : Pkt) (e : List (Nat × Bytes)) (hv : p.ednsVer = some 0) :
    (optRR p e).ttl = p.rcode / 16 * 16777216 + (if p.ednsDo then 32768 else 0) := by
  have h0 : (optRR p e).ttl = p.rcode / 16 * 16777216 + p.ednsVer.getD 0 * 65536 + (if p.ednsDo then 32768 else 0) := rfl
  rw [h0, hv, Option.getD_some, Nat.zero_mul, Nat.add_zero]

theorem find_noopt (l : List RR) (hno : ∀ rr ∈ l, rr.rrtype ≠ T_OPT) : List.find? isOpt0 l = none := by
  rw [List.find?_eq_none]; intro rr hrr
  rw [isOpt0, beq_false_of_ne (hno rr hrr), Bool.false_and]; exact Bool.false_ne_true

theorem find_opt (l : List RR) (o : RR) (hno : ∀ rr ∈ l, rr.rrtype ≠ T_OPT) (h1 : o.rrtype = T_OPT) (h2 : o.ttl / 65536 % 256 = 0) :
    List.find? isOpt0 (l ++ [o]) = some o := by
  have ho : isOpt0 o = true := by rw [isOpt0, h1, h2]; rfl
  rw [List.find?_append, find_noopt l hno, Option.none_or, List.find?_cons, ho]

theorem flag1_decode (rd tc aa qr : Bool) (op : Fin 16) :
    let f := (b2n rd) ||| (if tc then 2 else 0) ||| (if aa then 4 else 0) ||| (if qr then 128 else 0) ||| ((op.val * 8) % 256)
    (decide (f % 2 = 1) = rd) ∧ (decide (f / 2 % 2 = 1) = tc) ∧ (decide (f / 4 % 2 = 1) = aa) ∧ (decide (f / 128 % 2 = 1) = qr) ∧
    f / 8 % 16 = op.val := by
  revert rd tc aa qr op
  decide +kernel

theorem flag2_decode (cd ad ra : Bool) (rc : Fin 16) :
    let f := (if cd then 32 else 0) ||| (if ad then 64 else 0) ||| (if ra then 128 else 0) ||| rc.val
    (decide (f / 32 % 2 = 1) = cd) ∧ (decide (f / 64 % 2 = 1) = ad) ∧ (decide (f / 128 % 2 = 1) = ra) ∧ f % 16 = rc.val := by
  revert cd ad ra rc
  decide +kernel

theorem flag1Of_bits {p : Pkt} (h : p.opcode < 16) :
    decide (flag1Of p % 2 = 1) = p.rd ∧ decide (flag1Of p / 2 % 2 = 1) = p.tc ∧ decide (flag1Of p / 4 % 2 = 1) = p.aa ∧
    decide (flag1Of p / 128 % 2 = 1) = p.qr ∧ flag1Of p / 8 % 16 = p.opcode :=
  flag1_decode p.rd p.tc p.aa p.qr ⟨p.opcode, h⟩

theorem flag2Of_bits (p : Pkt) :
    decide (flag2Of p / 32 % 2 = 1) = p.cd ∧ decide (flag2Of p / 64 % 2 = 1) = p.ad ∧ decide (flag2Of p / 128 % 2 = 1) = p.ra ∧
    flag2Of p % 16 = p.rcode % 16 :=
  flag2_decode p.cd p.ad p.ra ⟨p.rcode % 16, Nat.mod_lt _ (by decide)⟩

/-- the message `get_dns` builds from what it has read: the header bits taken apart and the EDNS pseudo-record of the
    additional section folded into the message's EDNS fields (the last step of `parse`, word for word) -/
def assemble (qid flag1 flag2 : Nat) (qdomain : Name) (qtype qclass : Nat) (answer nameserver additional : List RR) : Pkt :=
  let trunc := flag1 / 2 % 2 = 1
  let opt := additional.find? isOpt0
  let ever := opt.map (fun o => o.ttl / 65536 % 256)
  let bufsize := max (match opt with | some o => o.cls | none => 512) 512
  let ercode := match opt with | some o => o.ttl / 16777216 | none => 0
  let edo := match opt with | some o => o.ttl / 32768 % 2 = 1 | none => false
  let edns := opt.map fun x => match x.rdata with | .opt o => o | _ => []
  { qid, rd := flag1 % 2 = 1, tc := trunc, aa := flag1 / 4 % 2 = 1, qr := flag1 / 128 % 2 = 1,
    opcode := flag1 / 8 % 16, cd := flag2 / 32 % 2 = 1, ad := flag2 / 64 % 2 = 1, ra := flag2 / 128 % 2 = 1,
    rcode := (flag2 % 16 + ercode * 16) % 65536, bufsize, ednsVer := ever, ednsDo := edo,
    qdomain, qclass, qtype, answer, nameserver,
    additional := additional.filter (fun rr => rr.rrtype != T_OPT), edns }

theorem assemble_wf {p : Pkt} (hw : WfPkt p) :
    assemble p.qid (flag1Of p) (flag2Of p) p.qdomain p.qtype p.qclass p.answer p.nameserver (additionalOf p) = p := by
  obtain ⟨f1rd, f1tc, f1aa, f1qr, f1op⟩ := flag1Of_bits hw.opcode
  obtain ⟨f2cd, f2ad, f2ra, f2rc⟩ := flag2Of_bits p
  have hno : ∀ rr ∈ p.additional, rr.rrtype ≠ T_OPT := fun rr hrr => (hw.ad rr hrr).2
  have hfilterId : List.filter (fun rr => rr.rrtype != T_OPT) p.additional = p.additional :=
    List.filter_eq_self.mpr fun rr hrr => bne_iff_ne.mpr (hno rr hrr)
  unfold assemble
  simp only [f1rd, f1tc, f1aa, f1qr, f1op, f2cd, f2ad, f2ra, f2rc]
  rcases hw.edns with ⟨e, he, hoe, hv⟩ | ⟨he, hv, hdo, hbs, hrc⟩
  · have hadd : additionalOf p = p.additional ++ [optRR p e] := by unfold additionalOf; rw [he]
    have httl := optRR_ttl p e hv
    have hver : (optRR p e).ttl / 65536 % 256 = 0 := by rw [httl]; exact opt_ttl_ver _ _ (by split <;> decide)
    have hrcode : (p.rcode % 16 + (optRR p e).ttl / 16777216 * 16) % 65536 = p.rcode := by
      rw [httl]; exact opt_ttl_ercode _ _ (Nat.lt_trans hw.rcode (by decide)) (by split <;> decide)
    have hdo : decide ((optRR p e).ttl / 32768 % 2 = 1) = p.ednsDo := by rw [httl]; exact opt_ttl_do _ _
    have hcls : max (optRR p e).cls 512 = p.bufsize := by
      show max p.bufsize 512 = p.bufsize
      have := hw.bufsize.1; omega
    have hrd : (optRR p e).rdata = .opt e := rfl
    rw [hadd, find_opt _ _ hno rfl hver, List.filter_append, hfilterId]
    simp only [Option.map_some, hver, hrcode, hdo, hcls, hrd, List.filter_cons, show (optRR p e).rrtype = T_OPT from rfl, bne_self_eq_false,
      Bool.false_eq_true, ↓reduceIte, List.filter_nil, List.append_nil]
    cases p
    simp only at he hv ⊢
    subst he hv
    rfl
  · have hadd : additionalOf p = p.additional := by unfold additionalOf; rw [he]
    rw [hadd, find_noopt _ hno, hfilterId]
    simp only [Option.map_none, Nat.zero_mul, Nat.add_zero, Nat.max_self, Nat.mod_eq_of_lt hrc,
      Nat.mod_eq_of_lt (Nat.lt_trans hrc (by decide) : p.rcode < 65536)]
    cases p
    simp only at he hv hdo hbs ⊢
    subst he hv hdo hbs
    rfl

theorem additionalOf_ok {p : Pkt} (hw : WfPkt p) : ∀ rr ∈ additionalOf p, RROK rr := by
  intro rr hrr
  unfold additionalOf at hrr
  rcases hw.edns with ⟨e, he, hoe, hv⟩ | ⟨he, _⟩
  · rw [he] at hrr
    rcases List.mem_append.mp hrr with h | h
    · exact (hw.ad rr h).1
    · simp only [List.mem_singleton] at h
      subst h
      have hnm : NameOK ([] : Name) := ⟨(fun l hl => by cases hl), (by simp), (by decide)⟩
      refine ⟨hnm, (by simp [optRR, T_OPT]), (by simp only [optRR]; exact hw.bufsize.2), ?_, ?_⟩
      · simp only [optRR, hv, Option.getD_some]
        have := hw.rcode
        split <;> omega
      · simp only [optRR, RDataOK]; exact ⟨trivial, hoe⟩
  · rw [he] at hrr; exact (hw.ad rr hrr).1

theorem message_roundtrip (p : Pkt) (hw : WfPkt p) (size : Nat) (wire : Bytes) (hc : Complete p size wire)
    (hsz : wire.length < 65536) : parse wire = .ok p := by
  obtain ⟨qb, t0, buf1, t1, an, buf2, t2, nsn, t3, adn, h0, h1, h2, h3⟩ := hc
  obtain ⟨-, e1, -, rfl, -⟩ := pushSection_spec h1
  obtain ⟨-, e2, -, rfl, -⟩ := pushSection_spec h2
  obtain ⟨-, e3, -, he3, -⟩ := pushSection_spec h3
  have hlen := congrArg List.length he3
  simp only [List.length_append, hdr_len, u16_len] at hlen
  -- the whole message, field after field, with the offset each reader leaves
  have hat : At wire 0 _ := Eq.subst (motive := (At wire 0 ·)) he3 ⟨[], [], by simp, rfl⟩
  simp only [hdrOf, List.append_assoc, List.cons_append, List.nil_append] at hat
  rw [hdr_len] at h0
  obtain ⟨g1, hat⟩ := getU16_at hw.qid hat
  obtain ⟨g2, hat⟩ := getU8_at hat
  obtain ⟨g3, hat⟩ := getU8_at hat
  obtain ⟨g4, hat⟩ := getU16_at (by decide) hat
  obtain ⟨g5, hat⟩ := getU16_at (Nat.mod_lt _ (by decide)) hat
  obtain ⟨g6, hat⟩ := getU16_at (Nat.mod_lt _ (by decide)) hat
  obtain ⟨g7, hat⟩ := getU16_at (Nat.mod_lt _ (by decide)) hat
  rw [Nat.mod_eq_of_lt hw.anN] at g5
  rw [Nat.mod_eq_of_lt hw.nsN] at g6
  rw [Nat.mod_eq_of_lt hw.adN] at g7
  obtain ⟨gq, ht, hat⟩ := name_at hw.qname h0 hat (rootOK_root _) (by omega)
  obtain ⟨g8, hat⟩ := getU16_at hw.qtype hat
  obtain ⟨g9, hat⟩ := getU16_at hw.qclass hat
  -- `section_at` speaks of the buffer a section was pushed onto: the offset reached is that buffer's length, and
  -- from here on the buffer and the TC bit are only names (`pre`, `tr`)
  have hpre : 12 + qb.length + 2 + 2 = (hdrOf p ++ qb ++ u16 p.qtype ++ u16 p.qclass).length := by
    simp only [List.length_append, hdr_len, u16_len]
  rw [hpre] at g9 hat
  replace ht := rootOK_take_mono (Nat.le_add_right _ 4) ht
  rw [Nat.add_assoc, show 2 + 2 = 4 from rfl] at hpre
  rw [hpre] at ht hlen
  clear hpre h0
  generalize hdrOf p ++ qb ++ u16 p.qtype ++ u16 p.qclass = pre at *
  generalize htr : decide (flag1Of p / 2 % 2 = 1) = tr
  obtain ⟨s1, ht, hat⟩ := section_at size tr p.answer hw.an pre t0 0 e1 t1 an h1 hat ht (by omega)
  rw [← List.length_append] at s1 ht hat
  obtain ⟨s2, ht, hat⟩ := section_at size tr p.nameserver hw.ns _ t1 0 e2 t2 nsn h2 hat ht
    (by rw [List.length_append]; omega)
  rw [← List.length_append] at s2 ht hat
  rw [he3] at h3
  obtain ⟨s3, -, -⟩ := section_at size tr (additionalOf p) (additionalOf_ok hw) _ t2 0 e3 t3 adn h3 hat.nil ht
    (by simp only [List.length_append]; omega)
  unfold parse
  simp only [htr, g1, g2, g3, g4, g5, g6, g7, gq, g8, g9, s1, s2, s3, bind, Except.bind, pure, Except.pure, ne_eq,
    not_true_eq_false, ↓reduceIte]
  subst htr
  exact congrArg Except.ok (assemble_wf hw)

end Erbium.DnsWire
