import ErbiumModel.Model.LeaseReport
import ErbiumModel.Spec.Json
/-! The lease listing is JSON and denotes the rows it was rendered from (C20): one lemma per production of the
    grammar (numeral, string body, object in the listing's layout, array in the listing's layout), and the
    entry and the listing as instances of them. String literals of the renderer are turned into characters by
    the core simproc `String.reduceToList` wherever a rendered text is compared with a derived one; where a key has to
    consist of `Plain` characters, `rw [String.toList_ofList]` does the same (a literal unifies with `String.ofList` of
    its characters, so its `toList` is that list, with no UTF-8 decoding to evaluate) and `decide` checks them. -/
namespace Erbium.LeaseReport
open Erbium.Spec.Json

/-- a character that may stand for itself inside a JSON string -/
def Plain (c : Char) : Prop := 0x20 ≤ c.toNat ∧ c ≠ '"' ∧ c ≠ '\\'

theorem strBody_plain (s : List Char) (h : ∀ c ∈ s, Plain c) : StrBody s s := by
  induction s with
  | nil => exact .nil
  | cons c t ih =>
    have hc := h c (by simp)
    exact .plain c t t hc.1 hc.2.1 hc.2.2 (ih (fun x hx => h x (by simp [hx])))

theorem key_plain (k : String) (h : ∀ c ∈ k.toList, Plain c) : StrBody k.toList k.toList := strBody_plain _ h

/-! ### numerals (§6) -/

theorem digit_facts : ∀ k : Fin 10, IsDigit (Char.ofNat (48 + k.val)) ∧ (Char.ofNat (48 + k.val)).toNat - 48 = k.val := by
  unfold IsDigit
  decide

theorem plain_of_digit {c : Char} (h : IsDigit c) : Plain c :=
  ⟨Nat.le_trans (by decide) h.1, by rintro rfl; exact absurd h.1 (by decide), by rintro rfl; exact absurd h.2 (by decide)⟩

theorem decValue_snoc (a : List Char) (d : Char) : decValue (a ++ [d]) = decValue a * 10 + (d.toNat - 48) := by
  simp [decValue, List.foldl_append]

theorem decNum_digit {k : Nat} (hk : k < 10) : DecNum [Char.ofNat (48 + k)] k :=
  have h := digit_facts ⟨k, hk⟩
  ⟨by simp, by simpa using h.1, fun hl => absurd hl (by simp), by simpa [decValue] using h.2⟩

theorem decNum_head_ne_zero {t : List Char} {m : Nat} (h : DecNum t m) (hm : 0 < m) : t.head? ≠ some '0' := by
  obtain ⟨hne, _, hlead, hval⟩ := h
  match t, hne with
  | [c], _ =>
    rintro ⟨rfl⟩
    exact Nat.lt_irrefl 0 (show 0 < decValue ['0'] from hval ▸ hm)
  | _ :: _ :: _, _ => exact hlead (by simp)

/-- `int = digit1-9 *DIGIT` -/
theorem decNum_snoc {t : List Char} {m k : Nat} (h : DecNum t m) (hm : 0 < m) (hk : k < 10) :
    DecNum (t ++ [Char.ofNat (48 + k)]) (m * 10 + k) := by
  have hd := digit_facts ⟨k, hk⟩
  refine ⟨by simp, ?_, fun _ => ?_, by rw [decValue_snoc, h.2.2.2, hd.2]⟩
  · exact List.forall_mem_append.mpr ⟨h.2.1, List.forall_mem_singleton.mpr hd.1⟩
  · obtain ⟨a, as, rfl⟩ := List.exists_cons_of_ne_nil h.1
    exact decNum_head_ne_zero (t := a :: as) h hm

theorem decDigits_denotes : ∀ (fuel n : Nat), n < fuel → DecNum (decDigits fuel n) n
  | 0, _, h => absurd h (Nat.not_lt_zero _)
  | fuel + 1, n, _ => by
    unfold decDigits
    split
    · exact decNum_digit ‹_›
    · have := decNum_snoc (decDigits_denotes fuel (n / 10) (by omega)) (by omega) (Nat.mod_lt n (by decide : 0 < 10))
      rwa [Nat.div_add_mod' n 10] at this

theorem dec_denotes (n : Nat) : DecNum (dec n) n := decDigits_denotes (n + 1) n (Nat.lt_succ_self n)

theorem dec_plain (n : Nat) : ∀ c ∈ dec n, Plain c := fun c hc => plain_of_digit ((dec_denotes n).2.1 c hc)

/-! ### strings (§7) -/

theorem hexDigit_facts : ∀ k : Fin 16, Plain (hexDigit k.val) ∧ hexVal (hexDigit k.val) = some k.val := by
  unfold Plain
  decide

theorem ipStr_plain (ip : Nat) : ∀ c ∈ ipStr ip, Plain c := by
  have dot : Plain '.' := by unfold Plain; decide
  simp only [ipStr, List.forall_mem_append, List.forall_mem_singleton]
  exact ⟨⟨⟨⟨⟨⟨dec_plain _, dot⟩, dec_plain _⟩, dot⟩, dec_plain _⟩, dot⟩, dec_plain _⟩

theorem hex2_plain (b : Nat) : ∀ c ∈ hex2 b, Plain c := by
  simp only [hex2, List.forall_mem_cons]
  exact ⟨(hexDigit_facts ⟨b / 16 % 16, Nat.mod_lt _ (by decide)⟩).1, (hexDigit_facts ⟨b % 16, Nat.mod_lt _ (by decide)⟩).1, nofun⟩

theorem clientStr_plain : ∀ (l : List Nat), ∀ c ∈ clientStr l, Plain c
  | [] => by simp [clientStr]
  | [b] => hex2_plain b
  | b :: b2 :: rest => by
    simp only [clientStr, List.forall_mem_append, List.forall_mem_singleton]
    exact ⟨⟨hex2_plain b, by unfold Plain; decide⟩, clientStr_plain (b2 :: rest)⟩

/-- `\u00XY` for a code below 0x20: two zeros, then the two digits that spell the code -/
theorem hex4_spec {n : Nat} (hn : n < 0x20) {t s : List Char} (h : StrBody t s) :
    StrBody ('\\' :: 'u' :: hex4 n ++ t) (Char.ofNat n :: s) := by
  have h16 : n / 16 < 16 := Nat.div_lt_of_lt_mul (Nat.lt_trans hn (by decide))
  have e : hex4 n = ['0', '0', hexDigit (n / 16), hexDigit (n % 16)] := by
    unfold hex4
    rw [Nat.div_eq_of_lt (Nat.lt_trans hn (by decide)), Nat.div_eq_of_lt (Nat.lt_trans hn (by decide)), Nat.mod_eq_of_lt h16]
    rfl
  have hval : ((0 * 16 + 0) * 16 + n / 16) * 16 + n % 16 = n := by
    rw [Nat.zero_mul, Nat.zero_add, Nat.div_add_mod']
  have := StrBody.uni '0' '0' _ _ 0 0 _ _ _ _ (by decide) (by decide) (hexDigit_facts ⟨n / 16, h16⟩).2
    (hexDigit_facts ⟨n % 16, Nat.mod_lt _ (by decide)⟩).2 (hval ▸ Nat.lt_trans hn (by decide)) h
  rw [hval] at this
  rw [e]
  exact this

theorem escChar_spec (c : Char) {t s : List Char} (h : StrBody t s) : StrBody (escChar c ++ t) (c :: s) := by
  unfold escChar
  split
  · subst c; exact .esc '"' '"' _ _ (by decide) h
  · split
    · subst c; exact .esc '\\' '\\' _ _ (by decide) h
    · split
      · have := hex4_spec ‹_› h
        rwa [Char.ofNat_toNat] at this
      · exact .plain c _ _ (Nat.le_of_not_lt ‹_›) ‹_› ‹_› h

theorem jsonStringBody_spec : ∀ (s : List Char), StrBody (jsonStringBody s) s
  | [] => .nil
  | c :: t => by
    rw [jsonStringBody, List.flatMap_cons]
    exact escChar_spec c (jsonStringBody_spec t)

/-- **the string grammar is unambiguous**: the text between the quotation marks denotes at most one sequence of
    characters — so what a JSON reader gets for a host name is exactly the stored host name and nothing else -/
theorem strBody_unique : ∀ {t s s' : List Char}, StrBody t s → StrBody t s' → s = s' := by
  intro t s s' h
  have escapeOf_u : escapeOf 'u' = none := by decide
  induction h generalizing s' with
  | nil => intro h'; cases h'; rfl
  | plain c t s hc hq hb _ ih =>
    intro h'
    cases h' with
    | plain _ _ s2 _ _ _ h2 => rw [ih h2]
    | esc e c2 _ s2 _ _ => exact absurd rfl hb
    | uni a b c2 d x y z w _ s2 _ _ _ _ _ _ => exact absurd rfl hb
  | esc e c t s he _ ih =>
    intro h'
    cases h' with
    | plain _ _ s2 _ _ hb _ => exact absurd rfl hb
    | esc _ c2 _ s2 he2 h2 =>
      rw [he] at he2; cases he2
      rw [ih h2]
    | uni a b c2 d x y z w _ s2 _ _ _ _ _ _ => rw [escapeOf_u] at he; cases he
  | uni a b c d x y z w t s ha hb hc hd _ _ ih =>
    intro h'
    cases h' with
    | plain _ _ s2 _ _ hbs _ => exact absurd rfl hbs
    | esc _ c2 _ s2 he2 _ => rw [escapeOf_u] at he2; cases he2
    | uni _ _ _ _ x2 y2 z2 w2 _ s2 ha2 hb2 hc2 hd2 _ h2 =>
      rw [ha] at ha2; rw [hb] at hb2; rw [hc] at hc2; rw [hd] at hd2
      cases ha2; cases hb2; cases hc2; cases hd2
      rw [ih h2]

/-! ### values between whitespace, objects and arrays in the listing's layout (§2–§5) -/

theorem ws_nil : Ws [] := fun c hc => by cases hc
theorem ws_space : Ws [' '] := fun c hc => by simp only [List.mem_singleton] at hc; subst hc; exact Or.inl rfl
theorem ws_nl : Ws ['\n'] := fun c hc => by simp only [List.mem_singleton] at hc; subst hc; exact Or.inr (Or.inl rfl)

theorem denotes_cast {t t' : List Char} {v : JV} (h : Denotes t v) (e : t' = t) : Denotes t' v := e ▸ h

/-- a member of an object: its key, the text of its value, the value -/
structure Field where
  key : List Char
  text : List Char
  val : JV

/-- ` "key": value` -/
def Field.member (f : Field) : List Char := ' ' :: '"' :: f.key ++ '"' :: ':' :: ' ' :: f.text

def Field.Ok (f : Field) : Prop := (∀ c ∈ f.key, Plain c) ∧ Denotes f.text f.val

def fieldsText : List Field → List Char
  | [] => []
  | f :: fs => f.member ++ fs.flatMap fun g => ',' :: g.member

/-- an object as the listing lays an entry out: ` { "k1": v1, "k2": v2 }` -/
def objectText (fs : List Field) : List Char := ' ' :: '{' :: fieldsText fs ++ [' ', '}']

/-- `member *( value-separator member )`, whitespace `w` allowed after the last value -/
theorem members_fields (w : List Char) (hw : Ws w) (f : Field) (fs : List Field) (h : ∀ g ∈ f :: fs, g.Ok) :
    Members (fieldsText (f :: fs) ++ w) ((f :: fs).map fun g => (g.key, g.val)) := by
  induction fs generalizing f with
  | nil =>
    obtain ⟨hk, hv⟩ := h f (by simp)
    have := Members.one [' '] _ _ [] _ _ ws_space (strBody_plain _ hk) ws_nil (.ws [' '] _ w _ ws_space hw hv)
    simp only [fieldsText, Field.member, List.flatMap_nil, List.append_assoc, List.cons_append, List.nil_append] at this ⊢
    exact this
  | cons g fs ih =>
    obtain ⟨hk, hv⟩ := h f (by simp)
    have := Members.cons [' '] _ _ [] _ _ _ _ ws_space (strBody_plain _ hk) ws_nil (.ws [' '] _ [] _ ws_space ws_nil hv)
      (ih g fun x hx => h x (List.mem_cons_of_mem _ hx))
    simp only [fieldsText, Field.member, List.flatMap_cons, List.append_assoc, List.cons_append, List.nil_append,
      List.append_nil] at this ⊢
    exact this

/-- `begin-object member *( value-separator member ) end-object` -/
theorem object_denotes (f : Field) (fs : List Field) (h : ∀ g ∈ f :: fs, g.Ok) :
    Denotes (objectText (f :: fs)) (.obj ((f :: fs).map fun g => (g.key, g.val))) := by
  refine denotes_cast (.ws [' '] _ [] _ ws_space ws_nil (.obj _ _ (members_fields _ ws_space f fs h))) ?_
  simp only [objectText, List.append_assoc, List.cons_append, List.nil_append, List.append_nil]

/-- `begin-array value *( value-separator value ) end-array` with the listing's line breaks -/
theorem elems_join {α : Type} (text : α → List Char) (val : α → JV) (h : ∀ a, Denotes (text a) (val a)) :
    ∀ (l : List α), l ≠ [] → Elems (['\n'] ++ joinEntries (l.map text) ++ ['\n']) (l.map val)
  | [], hne => absurd rfl hne
  | [a], _ => .one _ _ (.ws _ _ _ _ ws_nl ws_nl (h a))
  | a :: b :: l, _ => by
    have := Elems.cons _ _ _ _ (.ws ['\n'] _ [] _ ws_nl ws_nil (h a)) (elems_join text val h (b :: l) (by simp))
    simp only [List.map_cons, joinEntries, String.reduceToList, List.append_assoc, List.cons_append, List.nil_append] at this ⊢
    exact this

def rowV (r : LRow) : JV :=
  .obj ([("ip".toList, .str (ipStr r.ip)), ("client_id".toList, .str (clientStr r.client)),
         ("start".toList, .num r.start), ("expire".toList, .num r.expire)] ++
        (match r.host with
         | some h => [("host-name".toList, .str h)]
         | none => []))

/-- what the listing says: one object per row, in order, under the key `leases` -/
def listingV (rows : List LRow) : JV := .obj [("leases".toList, .arr (rows.map rowV))]

/-- the fields of an entry: what `entry` writes, beside what `rowV` says -/
def fields (r : LRow) : List Field :=
  ⟨"ip".toList, '"' :: ipStr r.ip ++ ['"'], .str (ipStr r.ip)⟩ ::
  ([⟨"client_id".toList, '"' :: clientStr r.client ++ ['"'], .str (clientStr r.client)⟩,
    ⟨"start".toList, dec r.start, .num r.start⟩, ⟨"expire".toList, dec r.expire, .num r.expire⟩] ++
   match r.host with
   | some h => [⟨"host-name".toList, '"' :: jsonStringBody h ++ ['"'], .str h⟩]
   | none => [])

theorem entry_eq (r : LRow) : entry r = objectText (fields r) := by
  unfold entry objectText fields
  -- everything before the optional last field once, then that field
  simp only [fieldsText, Field.member, String.reduceToList, List.flatMap_cons, List.append_assoc, List.cons_append,
    List.nil_append]
  cases r.host <;> simp only [jsonString, List.flatMap_cons, List.flatMap_nil, List.append_assoc, List.cons_append,
    List.nil_append]

theorem rowV_eq (r : LRow) : rowV r = .obj ((fields r).map fun g => (g.key, g.val)) := by
  unfold rowV fields
  cases r.host <;> rfl

theorem fields_ok (r : LRow) : ∀ f ∈ fields r, f.Ok := by
  have str {s} (hs : ∀ c ∈ s, Plain c) : Denotes ('"' :: s ++ ['"']) (.str s) := .str _ _ (strBody_plain _ hs)
  simp only [fields, Field.Ok, List.forall_mem_append, List.forall_mem_cons]
  refine ⟨⟨?_, str (ipStr_plain _)⟩, ⟨⟨?_, str (clientStr_plain _)⟩, ⟨?_, .num _ _ (dec_denotes _)⟩,
    ⟨?_, .num _ _ (dec_denotes _)⟩, nofun⟩, ?host⟩
  case host =>
    cases r.host with
    | none => nofun
    | some h =>
      simp only [List.forall_mem_singleton]
      refine ⟨?_, .str _ _ (jsonStringBody_spec h)⟩
      rw [String.toList_ofList]; unfold Plain; decide
  all_goals rw [String.toList_ofList]; unfold Plain; decide

theorem entry_denotes (r : LRow) : Denotes (entry r) (rowV r) := by
  rw [entry_eq, rowV_eq]
  exact object_denotes _ _ (fields_ok r)

theorem render_denotes (rows : List LRow) : Denotes (render rows) (listingV rows) := by
  have arr : Denotes ('[' :: (['\n'] ++ joinEntries (rows.map entry) ++ ['\n']) ++ [']']) (.arr (rows.map rowV)) := by
    cases rows with
    | nil => exact .arrNil (['\n'] ++ [] ++ ['\n']) (List.forall_mem_append.mpr ⟨ws_nl, ws_nl⟩)
    | cons r rest => exact .arr _ _ (elems_join entry rowV entry_denotes (r :: rest) (by simp))
  have key : StrBody "leases".toList "leases".toList := key_plain _ (by rw [String.toList_ofList]; unfold Plain; decide)
  have d : Denotes _ (listingV rows) := Denotes.ws [] _ ['\n'] _ ws_nil ws_nl
    (.obj _ _ (.one [' '] _ _ [' '] _ _ ws_space key ws_space (.ws [' '] _ [] _ ws_space ws_nil arr)))
  refine denotes_cast d ?_
  unfold render
  simp only [String.reduceToList, List.append_assoc, List.cons_append, List.nil_append, List.append_nil]

end Erbium.LeaseReport
