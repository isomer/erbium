import ErbiumModel.Lemmas.DnsMessage
import ErbiumModel.Lemmas.DnsTotal
import ErbiumModel.Lemmas.DnsSize
/-! What `serialise_with_size` returns. When a record does not fit it is the complete encoding of the message cut to
    the records written (TC set, counts rewritten, EDNS record gone), so the message-level round trip applies to it;
    it stays within the limit; and with totality: encode, then decode (C04, C03, C14). -/
namespace Erbium.DnsWire

/-- a section run depends on the buffer only through its length -/
theorem pushSection_reheader (size : Nat) (rs : List RR) :
    ∀ (bf bf2 ext : Bytes) (tt : Tree) (nn : Nat) (tt' : Tree) (nn' : Nat) (tr : Bool), bf.length = bf2.length →
      pushSection size rs bf tt nn = some (bf ++ ext, tt', nn', tr) →
      pushSection size rs bf2 tt nn = some (bf2 ++ ext, tt', nn', tr) := by
  intro bf bf2 ext tt nn tt' nn' tr hl hh
  fun_induction pushSection size rs bf tt nn generalizing bf2 ext with
  | case1 =>  -- no record left
    simp only [Option.some.injEq, Prod.mk.injEq, List.self_eq_append_right] at hh
    obtain ⟨rfl, rfl, rfl, rfl⟩ := hh
    simp [pushSection]
  | case2 => cases hh  -- `push_rr` panics
  | case3 rr rest buf t n b t1 hp hgt =>  -- the record does not fit
    simp only [Option.some.injEq, Prod.mk.injEq, List.self_eq_append_right] at hh
    obtain ⟨rfl, rfl, rfl, rfl⟩ := hh
    have : (bf2 ++ b).length > size := by simpa [← hl] using hgt
    simp only [pushSection, ← hl, hp, this, if_true, List.append_nil]
  | case4 rr rest buf t n b t1 hp hgt ih =>  -- the record fits
    obtain ⟨_, e, _, he, _⟩ := pushSection_spec hh
    rw [List.append_assoc] at he
    cases List.append_cancel_left he
    have : ¬ (bf2 ++ b).length > size := by simpa [← hl] using hgt
    simp only [pushSection, ← hl, hp, this, if_false]
    rw [← List.append_assoc] at hh ⊢
    exact ih _ _ (by simp [hl]) hh

/-- the message a truncated response stands for: sections cut to the records written, TC set, and — the EDNS
    pseudo-record is written last, so it is never among them — the EDNS fields at their defaults -/
def truncated (p : Pkt) (ka kn kd : Nat) : Pkt :=
  { p with tc := true, answer := p.answer.take ka, nameserver := p.nameserver.take kn,
           additional := p.additional.take kd, edns := none, ednsVer := none, bufsize := 512, ednsDo := false,
           rcode := p.rcode % 16 }

theorem additionalOf_length (p : Pkt) :
    p.additional.length ≤ (additionalOf p).length ∧ (additionalOf p).length ≤ p.additional.length + 1 := by
  unfold additionalOf; split <;> simp

theorem truncated_wf {p : Pkt} (hw : WfPkt p) (ka kn kd : Nat) : WfPkt (truncated p ka kn kd) where
  qid := hw.qid
  opcode := hw.opcode
  rcode := Nat.lt_trans (Nat.mod_lt _ (by decide)) (by decide)
  qtype := hw.qtype
  qclass := hw.qclass
  qname := hw.qname
  an := fun rr hrr => hw.an rr (List.mem_of_mem_take hrr)
  ns := fun rr hrr => hw.ns rr (List.mem_of_mem_take hrr)
  ad := fun rr hrr => hw.ad rr (List.mem_of_mem_take hrr)
  anN := Nat.lt_of_le_of_lt (List.length_take_le' _ _) hw.anN
  nsN := Nat.lt_of_le_of_lt (List.length_take_le' _ _) hw.nsN
  adN := Nat.lt_of_le_of_lt (Nat.le_trans (List.length_take_le' _ _) (additionalOf_length p).1) hw.adN
  bufsize := ⟨Nat.le_refl _, (by decide : 512 < 65536)⟩
  edns := .inr ⟨rfl, rfl, rfl, rfl, Nat.mod_lt _ (by decide)⟩

theorem flag1Of_truncated (p : Pkt) (ka kn kd : Nat) : flag1Of (truncated p ka kn kd) = flag1Of p ||| 2 := by
  simp only [flag1Of, truncated, if_true]
  -- `|||` is associative, commutative and idempotent: the TC bit moves to the end, and a second one changes nothing
  cases p.tc
  · rw [if_neg Bool.false_ne_true, Nat.or_zero]; ac_rfl
  · rw [if_pos rfl]; ac_rfl

theorem flag2Of_truncated (p : Pkt) (ka kn kd : Nat) : flag2Of (truncated p ka kn kd) = flag2Of p := by
  have h : p.rcode % 16 % 16 = p.rcode % 16 := Nat.mod_mod _ _
  show (if p.cd then 32 else 0) ||| (if p.ad then 64 else 0) ||| (if p.ra then 128 else 0) ||| (p.rcode % 16 % 16) = flag2Of p
  rw [h]; rfl

theorem hdrOf_truncated_eq (p : Pkt) {ka kn kd : Nat} (ha : ka ≤ p.answer.length) (hn : kn ≤ p.nameserver.length)
    (hd : kd ≤ p.additional.length) :
    hdrOf (truncated p ka kn kd) = u16 p.qid ++ [flag1Of p ||| 2, flag2Of p] ++ u16 1 ++ u16 ka ++ u16 kn ++ u16 kd := by
  have e1 : (truncated p ka kn kd).answer.length = ka := by simp [truncated, List.length_take]; omega
  have e2 : (truncated p ka kn kd).nameserver.length = kn := by simp [truncated, List.length_take]; omega
  have e3 : (additionalOf (truncated p ka kn kd)).length = kd := by
    simp [additionalOf, truncated, List.length_take]; omega
  unfold hdrOf
  rw [flag1Of_truncated, flag2Of_truncated, e1, e2, e3, u16_mod, u16_mod, u16_mod]
  rfl

theorem hdrOf_truncated {p : Pkt} (hw : WfPkt p) (ka kn kd : Nat) (ha : ka ≤ p.answer.length) (hn : kn ≤ p.nameserver.length)
    (hd : kd ≤ p.additional.length) :
    hdrOf (truncated p ka kn kd) = u16 p.qid ++ [flag1Of p ||| 2, flag2Of p] ++ u16 1 ++ u16 ka ++ u16 kn ++ u16 kd :=
  hdrOf_truncated_eq p ha hn hd

/-- setting TC and rewriting the three counts in a buffer that starts with the header of `p` -/
theorem header_rewrite (p : Pkt) (rest : Bytes) (an nsn adn : Nat) :
    splice (splice (splice ((hdrOf p ++ rest).set 2 ((hdrOf p ++ rest).getD 2 0 ||| 2)) (6, 8) (u16 an)) (8, 10) (u16 nsn))
      (10, 12) (u16 adn) =
    u16 p.qid ++ [flag1Of p ||| 2, flag2Of p] ++ u16 1 ++ u16 an ++ u16 nsn ++ u16 adn ++ rest := by
  simp [hdrOf, u16, splice]

/-- what `serialise_with_size` does to the buffer once a record did not fit: TC set, the three counts rewritten -/
def setTrunc (b : Bytes) (an nsn adn : Nat) : Bytes :=
  splice (splice (splice (b.set 2 (b.getD 2 0 ||| 2)) (6, 8) (u16 an)) (8, 10) (u16 nsn)) (10, 12) (u16 adn)

/-- three complete runs over the cut sections behind the header of `p`, then TC set and the counts rewritten, are
    the truncated message written completely -/
theorem cut_complete {p : Pkt} (size : Nat) {qb : Bytes} {t0 : Tree}
    (h0 : pushName p.qdomain root (hdrOf p).length = some (qb, t0))
    {ka kn kd : Nat} (ha : ka ≤ p.answer.length) (hn : kn ≤ p.nameserver.length) (hd : kd ≤ p.additional.length)
    {e1 e2 e3 : Bytes} {t1 t2 t3 : Tree} {n1 n2 n3 : Nat}
    (h1 : pushSection size (p.answer.take ka) (hdrOf p ++ qb ++ u16 p.qtype ++ u16 p.qclass) t0 0 =
      some (hdrOf p ++ qb ++ u16 p.qtype ++ u16 p.qclass ++ e1, t1, n1, false))
    (h2 : pushSection size (p.nameserver.take kn) (hdrOf p ++ qb ++ u16 p.qtype ++ u16 p.qclass ++ e1) t1 0 =
      some (hdrOf p ++ qb ++ u16 p.qtype ++ u16 p.qclass ++ e1 ++ e2, t2, n2, false))
    (h3 : pushSection size (p.additional.take kd) (hdrOf p ++ qb ++ u16 p.qtype ++ u16 p.qclass ++ e1 ++ e2) t2 0 =
      some (hdrOf p ++ qb ++ u16 p.qtype ++ u16 p.qclass ++ e1 ++ e2 ++ e3, t3, n3, false)) :
    Complete (truncated p ka kn kd) size
      (setTrunc (hdrOf p ++ qb ++ u16 p.qtype ++ u16 p.qclass ++ e1 ++ e2 ++ e3) ka kn kd) := by
  unfold setTrunc
  have hwire := header_rewrite p (qb ++ u16 p.qtype ++ u16 p.qclass ++ e1 ++ e2 ++ e3) ka kn kd
  rw [← hdrOf_truncated_eq p ha hn hd] at hwire
  simp only [← List.append_assoc] at hwire
  rw [hwire]
  refine ⟨qb, t0, hdrOf (truncated p ka kn kd) ++ qb ++ u16 p.qtype ++ u16 p.qclass ++ e1, t1, n1,
    hdrOf (truncated p ka kn kd) ++ qb ++ u16 p.qtype ++ u16 p.qclass ++ e1 ++ e2, t2, n2, t3, n3,
    by rw [hdr_len] at h0 ⊢; exact h0, ?_, ?_, ?_⟩
  · exact pushSection_reheader size _ _ _ e1 t0 0 t1 n1 false (by simp [hdr_len, u16_len]) h1
  · exact pushSection_reheader size _ _ _ e2 t1 0 t2 n2 false (by simp [hdr_len, u16_len]) h2
  · exact pushSection_reheader size _ _ _ e3 t2 0 t3 n3 false (by simp [hdr_len, u16_len]) h3

/-- written `buf ++ []` to fit the `… ++ e` of `cut_complete`'s runs with `e := []` -/
theorem pushSection_nil (size : Nat) (buf : Bytes) (t : Tree) : pushSection size [] buf t 0 = some (buf ++ [], t, 0, false) := by
  simp [pushSection]

/-- where the output was cut: inside the answer section, inside the authority section (answers complete), or inside
    the additional section (answers and authority complete) — records are only ever omitted from the end -/
def CutAt (p : Pkt) (ka kn kd : Nat) : Prop :=
  (ka < p.answer.length ∧ kn = 0 ∧ kd = 0) ∨
  (ka = p.answer.length ∧ kn < p.nameserver.length ∧ kd = 0) ∨
  (ka = p.answer.length ∧ kn = p.nameserver.length ∧ kd < (additionalOf p).length ∧ kd ≤ p.additional.length)

/-- `serialise_with_size` read backwards: the question, the three section runs (a section after one that stopped
    early is skipped) and, if a run stopped early, TC set and the three counts rewritten in place -/
theorem serialise_inv {p : Pkt} {size : Nat} {wire : Bytes} (h : serialiseWithSize p size = some wire) :
    ∃ qb t0 buf1 t1 an tr1 buf2 t2 nsn tr2 buf3 t3 adn tr3,
      pushName p.qdomain root (hdrOf p).length = some (qb, t0) ∧
      pushSection size p.answer (hdrOf p ++ qb ++ u16 p.qtype ++ u16 p.qclass) t0 0 = some (buf1, t1, an, tr1) ∧
      (if tr1 then some (buf1, t1, 0, true) else pushSection size p.nameserver buf1 t1 0) = some (buf2, t2, nsn, tr2) ∧
      (if tr2 then some (buf2, t2, 0, true) else pushSection size (additionalOf p) buf2 t2 0) = some (buf3, t3, adn, tr3) ∧
      wire = if tr3 then setTrunc buf3 an nsn adn else buf3 := by
  unfold serialiseWithSize at h
  simp only [show Generated.Dns.spliceRanges = [(6, 8), (8, 10), (10, 12)] from rfl, List.getD_cons_zero,
    List.getD_cons_succ] at h
  split at h
  · cases h
  split at h
  · cases h
  split at h
  · cases h
  rename_i qb t0 h0
  split at h
  · cases h
  rename_i buf1 t1 an tr1 h1
  split at h
  · cases h
  rename_i buf2 t2 nsn tr2 h2
  split at h
  · cases h
  rename_i buf3 t3 adn tr3 h3
  refine ⟨qb, t0, buf1, t1, an, tr1, buf2, t2, nsn, tr2, buf3, t3, adn, tr3, h0, h1, h2, h3, ?_⟩
  cases tr3 <;> exact (Option.some.inj h).symm

/-- **what `serialise_with_size` returns**: the complete message, or the complete encoding of the message cut at
    some record (TC set, counts of the records present, EDNS record gone) -/
theorem serialise_cases (p : Pkt) (size : Nat) (wire : Bytes)
    (h : serialiseWithSize p size = some wire) :
    Complete p size wire ∨ ∃ ka kn kd, CutAt p ka kn kd ∧ Complete (truncated p ka kn kd) size wire := by
  obtain ⟨qb, t0, buf1, t1, an, tr1, buf2, t2, nsn, tr2, buf3, t3, adn, tr3, h0, h1, h2, h3, hwire⟩ := serialise_inv h
  -- header and question stay a variable through the case analysis: every substitution is several times slower to
  -- check with the concrete buffer in context
  generalize hb0 : hdrOf p ++ qb ++ u16 p.qtype ++ u16 p.qclass = buf0 at h1
  obtain ⟨ka, e1, t1', rfl, rfl, hk1, r1⟩ := pushSection_spec h1
  rw [Nat.zero_add] at *
  cases tr1 with
  | true =>
    rw [if_pos rfl] at h2; cases h2
    rw [if_pos rfl] at h3; cases h3
    subst hb0
    have := cut_complete size h0 (Nat.le_of_lt hk1) (Nat.zero_le _) (Nat.zero_le _) r1
      (pushSection_nil size _ t1') (pushSection_nil size _ t1')
    exact .inr ⟨ka, 0, 0, .inl ⟨hk1, rfl, rfl⟩, by rw [hwire, if_pos rfl]; simpa only [List.append_nil] using this⟩
  | false =>
    obtain ⟨rfl, rfl⟩ := hk1
    obtain ⟨kn, e2, t2', rfl, rfl, hk2, r2⟩ := pushSection_spec h2
    rw [Nat.zero_add] at *
    cases tr2 with
    | true =>
      rw [if_pos rfl] at h3; cases h3
      subst hb0
      have := cut_complete size h0 (Nat.le_refl _) (Nat.le_of_lt hk2) (Nat.zero_le _) (by rwa [List.take_length])
        r2 (pushSection_nil size _ t2')
      exact .inr ⟨_, kn, 0, .inr (.inl ⟨rfl, hk2, rfl⟩), by rw [hwire, if_pos rfl]; simpa only [List.append_nil] using this⟩
    | false =>
      obtain ⟨rfl, rfl⟩ := hk2
      obtain ⟨kd, e3, t3', rfl, rfl, hk3, r3⟩ := pushSection_spec h3
      rw [Nat.zero_add] at *
      cases tr3 with
      | false =>
        obtain ⟨rfl, rfl⟩ := hk3
        rw [if_neg Bool.false_ne_true] at hwire
        subst hwire hb0
        exact .inl ⟨qb, t0, _, _, _, _, _, _, _, _, h0, h1, h2, h3⟩
      | true =>
        have hk3 : kd < (additionalOf p).length := hk3
        have hkd : kd ≤ p.additional.length := by have := (additionalOf_length p).2; omega
        have htake : (additionalOf p).take kd = p.additional.take kd := by
          unfold additionalOf
          split
          · exact List.take_append_of_le_length hkd
          · rfl
        rw [htake] at r3
        subst hb0
        have := cut_complete size h0 (Nat.le_refl _) (Nat.le_refl _) hkd (by rwa [List.take_length])
          (by rwa [List.take_length]) r3
        exact .inr ⟨_, _, kd, .inr (.inr ⟨rfl, rfl, hk3, hkd⟩), by rw [hwire, if_pos rfl]; exact this⟩

theorem pushSection_fits {size size2 : Nat} {rs : List RR} {bf : Bytes} {tt : Tree} {nn : Nat} {bf' : Bytes} {tt' : Tree} {nn' : Nat}
    (hh : pushSection size rs bf tt nn = some (bf', tt', nn', false)) (hle : bf'.length ≤ size2) :
    pushSection size2 rs bf tt nn = some (bf', tt', nn', false) := by
  fun_induction pushSection size rs bf tt nn with
  | case1 => simpa [pushSection] using hh  -- no record left
  | case2 => cases hh  -- `push_rr` panics
  | case3 => cases hh  -- the record does not fit
  | case4 rr rest buf t n b t1 hp hgt ih =>  -- the record fits
    obtain ⟨_, e, _, rfl, _⟩ := pushSection_spec hh
    have : ¬ (buf ++ b).length > size2 := by simp only [List.length_append] at hle ⊢; omega
    simp only [pushSection, hp, this, if_false]
    exact ih hh

/-- a run never shortens the buffer, and leaves it within the limit unless it was beyond it already -/
theorem pushSection_le {size : Nat} {rrs : List RR} {buf : Bytes} {t : Tree} {n : Nat} {buf' : Bytes} {t' : Tree} {n' : Nat}
    {tr : Bool} (hs : pushSection size rrs buf t n = some (buf', t', n', tr)) :
    buf'.length ≤ max size buf.length ∧ buf.length ≤ buf'.length := by
  fun_induction pushSection size rrs buf t n with
  | case1 | case3 => cases hs; exact ⟨Nat.le_max_right _ _, Nat.le_refl _⟩  -- no record left; the record does not fit
  | case2 => cases hs  -- `push_rr` panics
  | case4 rr rest buf t n b t1 hp hgt ih =>  -- the record fits
    have := ih hs
    simp only [List.length_append] at this hgt
    omega

theorem complete_fits {p : Pkt} {size size2 : Nat} {wire : Bytes} (hc : Complete p size wire) (hle : wire.length ≤ size2) :
    Complete p size2 wire := by
  obtain ⟨qb, t0, buf1, t1, an, buf2, t2, nsn, t3, adn, h0, h1, h2, h3⟩ := hc
  have l2 := Nat.le_trans (pushSection_le h3).2 hle
  have l1 := Nat.le_trans (pushSection_le h2).2 l2
  exact ⟨qb, t0, buf1, t1, an, buf2, t2, nsn, t3, adn, h0, pushSection_fits h1 l1,
    pushSection_fits h2 l2, pushSection_fits h3 hle⟩

theorem setTrunc_length (b : Bytes) (an nsn adn : Nat) (h : 12 ≤ b.length) : (setTrunc b an nsn adn).length = b.length := by
  simp only [setTrunc, splice, List.length_append, List.length_take, List.length_drop, List.length_set, u16_len]
  omega

/-- the response is no longer than the limit, unless header and question alone are -/
theorem serialise_le {p : Pkt} {size : Nat} {w : Bytes} (hs : serialiseWithSize p size = some w) :
    ∃ qb t0, pushName p.qdomain root 12 = some (qb, t0) ∧ w.length ≤ max size (12 + qb.length + 4) := by
  obtain ⟨qb, t0, buf1, t1, an, tr1, buf2, t2, nsn, tr2, buf3, t3, adn, tr3, h0, h1, h2, h3, rfl⟩ := serialise_inv hs
  refine ⟨qb, t0, hdr_len p ▸ h0, ?_⟩
  generalize hb0 : hdrOf p ++ qb ++ u16 p.qtype ++ u16 p.qclass = buf0 at h1
  have hl0 : buf0.length = 12 + qb.length + 4 := by rw [← hb0]; simp only [List.length_append, u16_len, hdr_len]
  have l1 := pushSection_le h1
  have l2 : buf2.length ≤ max size buf1.length ∧ buf1.length ≤ buf2.length := by
    split at h2
    · cases h2; exact ⟨Nat.le_max_right _ _, Nat.le_refl _⟩
    · exact pushSection_le h2
  have l3 : buf3.length ≤ max size buf2.length ∧ buf2.length ≤ buf3.length := by
    split at h3
    · cases h3; exact ⟨Nat.le_max_right _ _, Nat.le_refl _⟩
    · exact pushSection_le h3
  split
  · rw [setTrunc_length _ _ _ _ (by omega)]; omega
  · omega

theorem serialise_parses {p : Pkt} (hw : WfPkt p) {size : Nat} {wire : Bytes} (h : serialiseWithSize p size = some wire)
    (hsz : wire.length < 65536) :
    parse wire = .ok p ∨ ∃ ka kn kd, CutAt p ka kn kd ∧ parse wire = .ok (truncated p ka kn kd) := by
  rcases serialise_cases p size wire h with hc | ⟨ka, kn, kd, hcut, hc⟩
  · exact .inl (message_roundtrip p hw size wire hc hsz)
  · exact .inr ⟨ka, kn, kd, hcut, message_roundtrip _ (truncated_wf hw ka kn kd) size wire hc hsz⟩

/-- what a client decodes from whatever the serialiser returns for `p`: `p` itself, or `p` with TC set and each
    section cut to a prefix -/
theorem decodes_to_prefix {p : Pkt} (hw : WfPkt p) {size : Nat} {wire : Bytes} (h : serialiseWithSize p size = some wire)
    (hsz : wire.length < 65536) :
    ∃ c, parse wire = .ok c ∧ c.qid = p.qid ∧ c.qdomain = p.qdomain ∧ c.qtype = p.qtype ∧ c.qclass = p.qclass ∧
      c.qr = p.qr ∧ c.rcode % 16 = p.rcode % 16 ∧ c.answer <+: p.answer ∧ c.nameserver <+: p.nameserver ∧
      c.additional <+: p.additional ∧ (c.tc = false → c = p) := by
  rcases serialise_parses hw h hsz with hc | ⟨ka, kn, kd, _, hc⟩
  · exact ⟨p, hc, rfl, rfl, rfl, rfl, rfl, rfl, List.prefix_refl _, List.prefix_refl _, List.prefix_refl _, fun _ => rfl⟩
  · exact ⟨_, hc, rfl, rfl, rfl, rfl, rfl, Nat.mod_mod _ _, List.take_prefix _ _, List.take_prefix _ _,
      List.take_prefix _ _, fun htc => nomatch htc⟩

/-- header and question of a message with a decoder-accepted name fit every limit ≥ 512: a name is at most 255
    octets and compression never lengthens it -/
theorem question_fits {p : Pkt} (hn : NameOK p.qdomain) {qb : Bytes} {t0 : Tree}
    (h : pushName p.qdomain root 12 = some (qb, t0)) : 12 + qb.length + 4 ≤ 512 := by
  have h1 := pushName_len hn.1 h
  have h2 := hn.2.2
  have h3 : Generated.Dns.nameOctetLimit = 255 := rfl
  omega

/-- encode, then decode, for a message of the decoder's shape that meets the encoder's preconditions: the encoding
    exists, respects the limit and decodes to the message or to the message cut from the end -/
theorem serialise_decodes (p : Pkt) (he : PktEnc p) (hw : WfPkt p) (size : Nat) (hs : 512 ≤ size) (hs2 : size < 65536) :
    ∃ wire, serialiseWithSize p size = some wire ∧ wire.length ≤ size ∧
      (parse wire = .ok p ∨ ∃ ka kn kd, CutAt p ka kn kd ∧ parse wire = .ok (truncated p ka kn kd)) := by
  obtain ⟨wire, h⟩ := serialise_total rfl p he size hs
  obtain ⟨qb, t0, h0, hle⟩ := serialise_le h
  have hlen : wire.length ≤ size := by have := question_fits hw.qname h0; omega
  exact ⟨wire, h, hlen, serialise_parses hw h (by omega)⟩

end Erbium.DnsWire
