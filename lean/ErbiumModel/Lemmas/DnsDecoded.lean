import ErbiumModel.Lemmas.DnsMessage
import ErbiumModel.Lemmas.DnsTotal
import ErbiumModel.Lemmas.Except
import ErbiumModel.Lemmas.Digits
/-! What the decoder returns is inside the domain of the round-trip and totality theorems: every message
    `parse` accepts is a `WfPkt` whose opaque record data fit 16 bits (C14's "any message the decoder accepts"). -/
namespace Erbium.DnsWire

def Octets (l : Bytes) : Prop := ∀ x ∈ l, x < 256

theorem Octets.take {l : Bytes} (h : Octets l) (n : Nat) : Octets (l.take n) := fun x hx => h x (List.mem_of_mem_take hx)
theorem Octets.drop {l : Bytes} (h : Octets l) (n : Nat) : Octets (l.drop n) := fun x hx => h x (List.mem_of_mem_drop hx)

theorem getU8_ok {buf : Bytes} (hb : Octets buf) (off : Nat) : Yields (getU8 buf off) (fun r => r.1 < 256) := by
  unfold getU8
  split
  · rename_i hg; exact .ok (hb _ (List.mem_of_getElem? hg))
  · exact .error

theorem getU16_ok {buf : Bytes} (hb : Octets buf) (off : Nat) : Yields (getU16 buf off) (fun r => r.1 < 65536) := by
  unfold getU16
  exact (getU8_ok hb _).bind fun _ h1 => (getU8_ok hb _).bind fun _ h2 => .ok (Digits.lt16 h1 h2)

theorem getU32_ok {buf : Bytes} (hb : Octets buf) (off : Nat) : Yields (getU32 buf off) (fun r => r.1 < 4294967296) := by
  unfold getU32
  refine (getU8_ok hb _).bind fun a h1 => (getU8_ok hb _).bind fun b h2 => (getU8_ok hb _).bind fun c h3 =>
    (getU8_ok hb _).bind fun d h4 => .ok ?_
  show a.1 * 16777216 + b.1 * 65536 + c.1 * 256 + d.1 < 4294967296
  omega

theorem getBytes_ok (buf : Bytes) (off n : Nat) :
    Yields (getBytes buf off n) (fun r => r.1 = (buf.drop off).take n ∧ r.1.length = n) := by
  unfold getBytes
  split
  · exact .ok ⟨rfl, by rw [List.length_take, List.length_drop]; omega⟩
  · exact .error

theorem getString_ok {buf : Bytes} (hb : Octets buf) (off : Nat) : Yields (getString buf off) (fun r => r.1.length < 256) := by
  unfold getString
  exact (getU8_ok hb _).bind fun _ hn => (getBytes_ok _ _ _).mono fun _ h => h.2 ▸ hn

theorem getDomainInto_wf (buf : Bytes) (fuel off depth : Nat) : Yields (getDomainInto buf fuel off depth) (fun r => WfName r.1) := by
  fun_induction getDomainInto buf fuel off depth with
  | case3 => exact .ok fun l hl => nomatch hl  -- terminator
  | case4 fuel off depth p _ h0 h64 hlen rest _ hr ih =>  -- label, the rest decodes
    refine .ok fun l hl => ?_
    rcases List.mem_cons.mp hl with rfl | hl
    · exact ⟨by rw [List.length_take, List.length_drop]; omega, by rw [List.length_take, List.length_drop]; omega⟩
    · exact ih _ hr l hl
  | case9 => rename_i hr ih; have := ih _ hr; exact .ok this  -- pointer, its target decodes
  | _ => exact .error

theorem getDomain_ok (buf : Bytes) (off : Nat) : Yields (getDomain buf off) (fun r => NameOK r.1) := by
  unfold getDomain
  split
  · rename_i d o hr
    refine .ite (fun _ => .error) fun hw => .ok ?_
    exact nameOK_of_wireLen (getDomainInto_wf _ _ _ _ _ hr) (Nat.le_of_not_gt hw)
  · exact .error

theorem parseOpts_ok {b : Bytes} (hb : Octets b) (fuel : Nat) : Yields (parseOpts fuel b) OptsOK := by
  fun_induction parseOpts fuel b with
  | case1 | case2 => exact .ok fun e he => nomatch he  -- out of fuel; no octets left
  | case4 fuel c1 c2 l1 l2 rest =>  -- one option, the rest parses
    rename_i hr ih
    obtain ⟨hc1, hc2, hl1, hl2, hrest⟩ : c1 < 256 ∧ c2 < 256 ∧ l1 < 256 ∧ l2 < 256 ∧ Octets rest := by
      simpa only [Octets, List.forall_mem_cons] using hb
    refine .ok fun e he => ?_
    rcases List.mem_cons.mp he with rfl | he
    · exact ⟨Digits.lt16 hc1 hc2, by have := Digits.lt16 hl1 hl2; simp only [List.length_take]; omega⟩
    · exact ih (hrest.drop _) _ hr e he
  | _ => exact .error

/-- opaque record data fit the 16-bit length the encoder writes in front of them -/
def RawFits : RData → Prop
  | .other x => x.length < 65536
  | _ => True

theorem getRData_ok {buf : Bytes} (hb : Octets buf) (off rtype : Nat) :
    Yields (getRData buf off rtype) (fun r => RDataOK rtype r.1 ∧ RawFits r.1) := by
  unfold getRData
  refine (getU16_ok hb off).bind fun _ hrdlen => ?_
  -- CNAME
  refine .ite (fun t => (getDomain_ok _ _).bind fun _ hd => .ok ⟨⟨t, hd⟩, trivial⟩) fun t1 => ?_
  -- NS
  refine .ite (fun t => (getDomain_ok _ _).bind fun _ hd => .ok ⟨⟨t, hd⟩, trivial⟩) fun t2 => ?_
  -- PTR
  refine .ite (fun t => (getDomain_ok _ _).bind fun _ hd => .ok ⟨⟨t, hd⟩, trivial⟩) fun t3 => ?_
  -- AFSDB
  refine .ite (fun t => (getU16_ok hb _).bind fun _ hv => (getDomain_ok _ _).bind fun _ hd => .ok ⟨⟨t, hv, hd⟩, trivial⟩) fun t4 => ?_
  -- RP
  refine .ite (fun t => (getDomain_ok _ _).bind fun _ hm => (getDomain_ok _ _).bind fun _ hd => .ok ⟨⟨t, hm, hd⟩, trivial⟩) fun t5 => ?_
  -- RT
  refine .ite (fun t => (getU16_ok hb _).bind fun _ hv => (getDomain_ok _ _).bind fun _ hd => .ok ⟨⟨t, hv, hd⟩, trivial⟩) fun t6 => ?_
  -- MX
  refine .ite (fun t => (getU16_ok hb _).bind fun _ hv => (getDomain_ok _ _).bind fun _ hd => .ok ⟨⟨t, hv, hd⟩, trivial⟩) fun t7 => ?_
  -- NAPTR
  refine .ite (fun t => (getU16_ok hb _).bind fun _ h1 => (getU16_ok hb _).bind fun _ h2 => (getString_ok hb _).bind fun _ h3 =>
    (getString_ok hb _).bind fun _ h4 => (getString_ok hb _).bind fun _ h5 => (getDomain_ok _ _).bind fun _ hd =>
    .ok ⟨⟨t, h1, h2, h3, h4, h5, hd⟩, trivial⟩) fun t8 => ?_
  -- OPT
  refine .ite (fun t => (getBytes_ok _ _ _).bind fun b hbts => ?_) fun t9 => ?_
  · dsimp only
    split
    · rename_i os hp
      exact .ok ⟨⟨t, parseOpts_ok (hbts.1 ▸ (hb.drop _).take _) _ _ hp⟩, trivial⟩
    · exact .error
  -- SOA
  refine .ite (fun t => (getDomain_ok _ _).bind fun _ hm => (getDomain_ok _ _).bind fun _ hr => (getU32_ok hb _).bind fun _ ha =>
    (getU32_ok hb _).bind fun _ hb' => (getU32_ok hb _).bind fun _ hc => (getU32_ok hb _).bind fun _ hd =>
    (getU32_ok hb _).bind fun _ he => .ok ⟨⟨t, hm, hr, ha, hb', hc, hd, he⟩, trivial⟩) fun t10 => ?_
  -- any other type: an opaque record is as long as the 16-bit RDLENGTH read in front of it says
  exact (getBytes_ok _ _ _).bind fun _ hbts => .ok ⟨⟨t1, t2, t3, t4, t5, t6, t7, t8, t9, t10⟩, show _ < 65536 from hbts.2 ▸ hrdlen⟩

theorem getRR_ok {buf : Bytes} (hb : Octets buf) (off : Nat) :
    Yields (getRR buf off) (fun r => RROK r.1 ∧ RawFits r.1.rdata) := by
  unfold getRR
  refine (getDomain_ok buf _).bind fun _ hd => (getU16_ok hb _).bind fun _ ht => (getU16_ok hb _).bind fun _ hc =>
    (getU32_ok hb _).bind fun _ hl => (getRData_ok hb _ _).bind fun _ hr => .ok ⟨⟨hd, ht, hc, hl, hr.1⟩, hr.2⟩

theorem getRRs_ok {buf : Bytes} (hb : Octets buf) (trunc : Bool) (n off : Nat) :
    Yields (getRRs buf trunc n off) (fun r => (∀ rr ∈ r.1, RROK rr ∧ RawFits rr.rdata) ∧ r.1.length ≤ n) := by
  fun_induction getRRs buf trunc n off with
  | case1 | case2 => exact .ok ⟨fun rr hrr => (nomatch hrr), Nat.zero_le _⟩  -- count reached; end of a truncated message
  | case5 =>  -- one record, the rest reads
    rename_i h1 _ _ h2 ih
    have := ih _ h2
    exact .ok ⟨fun x hx => (List.mem_cons.mp hx).elim (fun e => e ▸ getRR_ok hb _ _ h1) (this.1 x), Nat.succ_le_succ this.2⟩
  | _ => exact .error

/-- every record of the message, for the conditions that are stated per record -/
def allRRs (p : Pkt) : List RR := p.answer ++ p.nameserver ++ p.additional

/-- the response code the decoder folds from the header's four bits and the OPT record's eight stays within 12 bits -/
theorem rcode_fold_lt (f : Nat) {e : Nat} (he : e < 256) : (f % 16 + e * 16) % 65536 < 4096 := by omega

/-- the last step of `parse` keeps the bounds of what was read -/
theorem assemble_ok {qid flag1 flag2 : Nat} {qdomain : Name} {qtype qclass : Nat} {answer nameserver additional : List RR}
    (hqid : qid < 65536) (hqd : NameOK qdomain) (hqt : qtype < 65536)
    (hqc : qclass < 65536)
    (hA : (∀ rr ∈ answer, RROK rr ∧ RawFits rr.rdata) ∧ answer.length < 65536)
    (hN : (∀ rr ∈ nameserver, RROK rr ∧ RawFits rr.rdata) ∧ nameserver.length < 65536)
    (hD : (∀ rr ∈ additional, RROK rr ∧ RawFits rr.rdata) ∧ additional.length < 65536) :
    WfPkt (assemble qid flag1 flag2 qdomain qtype qclass answer nameserver additional) ∧
      ∀ rr ∈ allRRs (assemble qid flag1 flag2 qdomain qtype qclass answer nameserver additional), RawFits rr.rdata := by
  have hfits : ∀ rr ∈ answer ++ nameserver ++ additional.filter (fun rr => rr.rrtype != T_OPT), RawFits rr.rdata := by
    intro rr hrr
    rcases List.mem_append.mp hrr with h1 | h1
    · rcases List.mem_append.mp h1 with h2 | h2
      · exact (hA.1 rr h2).2
      · exact (hN.1 rr h2).2
    · exact (hD.1 rr (List.mem_filter.mp h1).1).2
  refine ⟨?_, hfits⟩
  have hO : ∀ O, additional.find? isOpt0 = some O → O ∈ additional ∧ O.rrtype = T_OPT ∧ O.ttl / 65536 % 256 = 0 := by
    intro O hO
    have := List.find?_some hO
    simp only [isOpt0, Bool.and_eq_true, beq_iff_eq] at this
    exact ⟨List.mem_of_find?_eq_some hO, this⟩
  unfold assemble
  generalize additional.find? isOpt0 = opt at hO
  refine
    { qid := hqid, opcode := Nat.mod_lt _ (by decide), qtype := hqt, qclass := hqc, qname := hqd,
      an := fun rr hrr => (hA.1 rr hrr).1, ns := fun rr hrr => (hN.1 rr hrr).1,
      ad := fun rr hrr => ⟨(hD.1 rr (List.mem_filter.mp hrr).1).1, by simpa using (List.mem_filter.mp hrr).2⟩,
      anN := hA.2, nsN := hN.2, rcode := ?_, adN := ?_, bufsize := ?_, edns := ?_ } <;> cases opt <;> dsimp only
  · exact rcode_fold_lt _ (by decide)  -- rcode, no OPT record
  · rename_i O  -- rcode, OPT record
    exact rcode_fold_lt _ (Nat.div_lt_of_lt_mul (hD.1 O (hO O rfl).1).1.ttl)
  · show (additional.filter _).length < 65536  -- adN, no OPT record
    have := List.length_filter_le (fun rr : RR => rr.rrtype != T_OPT) additional
    omega
  · rename_i O  -- adN, OPT record
    have : (additional.filter fun rr => rr.rrtype != T_OPT).length < additional.length :=
      List.length_filter_lt_length_iff_exists.mpr ⟨O, (hO O rfl).1, by simp [(hO O rfl).2.1]⟩
    show (additional.filter _ ++ [_]).length < 65536
    rw [List.length_append, List.length_singleton]; omega
  · exact ⟨Nat.le_refl _, by decide⟩  -- bufsize, no OPT record
  · rename_i O  -- bufsize, OPT record
    exact ⟨Nat.le_max_right _ _, Nat.max_lt.mpr ⟨(hD.1 O (hO O rfl).1).1.cls, by decide⟩⟩
  · exact .inr ⟨rfl, rfl, rfl, rfl, by  -- edns, no OPT record
      rw [Nat.zero_mul, Nat.add_zero]
      exact Nat.lt_of_le_of_lt (Nat.mod_le _ _) (Nat.mod_lt _ (by decide))⟩
  · rename_i O  -- edns, OPT record
    refine .inl ⟨_, rfl, ?_, congrArg some (hO O rfl).2.2⟩
    have hrd := (hD.1 O (hO O rfl).1).1.rd
    rw [(hO O rfl).2.1] at hrd
    show OptsOK (match O.rdata with | .opt o => o | _ => [])
    cases hr : O.rdata with
    | opt os => rw [hr] at hrd; exact hrd.2
    | _ => exact fun e he => nomatch he

/-- **what the decoder returns**: a message of the shape the round-trip theorem is about, whose opaque record
    data fit their 16-bit length -/
theorem parse_wf {buf : Bytes} (hb : Octets buf) {m : Pkt} (h : parse buf = .ok m) :
    WfPkt m ∧ ∀ rr ∈ allRRs m, RawFits rr.rdata := by
  suffices Yields (parse buf) (fun m => WfPkt m ∧ ∀ rr ∈ allRRs m, RawFits rr.rdata) from this m h
  unfold parse
  refine (getU16_ok hb _).bind fun _ hqid => ?_
  refine (getU8_ok hb _).bind fun _ _ => (getU8_ok hb _).bind fun _ _ => (getU16_ok hb _).bind fun _ _ => ?_
  refine .ite (fun _ => .error) fun _ => ?_
  refine (getU16_ok hb _).bind fun _ har => (getU16_ok hb _).bind fun _ hns => (getU16_ok hb _).bind fun _ had => ?_
  refine (getDomain_ok _ _).bind fun _ hqd => (getU16_ok hb _).bind fun _ hqt => (getU16_ok hb _).bind fun _ hqcl => ?_
  refine (getRRs_ok hb _ _ _).bind fun _ hA => (getRRs_ok hb _ _ _).bind fun _ hN => (getRRs_ok hb _ _ _).bind fun _ hD => .ok ?_
  -- a section holds at most as many records as its 16-bit count in the header
  exact assemble_ok hqid hqd hqt hqcl ⟨hA.1, Nat.lt_of_le_of_lt hA.2 har⟩ ⟨hN.1, Nat.lt_of_le_of_lt hN.2 hns⟩
    ⟨hD.1, Nat.lt_of_le_of_lt hD.2 had⟩

theorem rrenc_of_ok {rr : RR} (h : RROK rr) (hf : RawFits rr.rdata) : RREnc rr := by
  refine ⟨h.name.1, ?_⟩
  have hrd := h.rd
  cases hr : rr.rdata with rw [hr] at hrd
  | cname | ns | ptr => exact hrd.2.1
  | mx | rt | afsdb => exact hrd.2.2.1
  | rp => exact ⟨hrd.2.1.1, hrd.2.2.1⟩
  | soa => exact ⟨hrd.1, hrd.2.1.1, hrd.2.2.1.1⟩
  | naptr => obtain ⟨-, -, -, hfl, hsv, hre, hn⟩ := hrd; exact ⟨hfl, hsv, hre, hn.1⟩
  | opt => exact hrd.1
  | other => obtain ⟨-, -, -, -, -, -, -, -, hopt, hsoa⟩ := hrd; rw [hr] at hf; exact ⟨hopt, hsoa, hf⟩

theorem pktenc_of_wf {p : Pkt} (hw : WfPkt p) (hf : ∀ rr ∈ allRRs p, RawFits rr.rdata) : PktEnc p where
  rcode := hw.rcode
  qname := hw.qname.1
  an := fun rr hrr => rrenc_of_ok (hw.an rr hrr) (hf rr (by unfold allRRs; simp [hrr]))
  ns := fun rr hrr => rrenc_of_ok (hw.ns rr hrr) (hf rr (by unfold allRRs; simp [hrr]))
  ad := fun rr hrr => rrenc_of_ok (hw.ad rr hrr).1 (hf rr (by unfold allRRs; simp [hrr]))

end Erbium.DnsWire
