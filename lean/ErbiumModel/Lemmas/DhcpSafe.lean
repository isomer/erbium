import ErbiumModel.Lemmas.Cursor
import ErbiumModel.Model.DhcpSafe
/-! No DHCP packet, option value or hardware address makes the DHCP decoders panic. -/
namespace Erbium.DhcpSafe
open Erbium.Safe Erbium.Cursor Erbium.Generated.Pkt

def Bytes (l : List Nat) : Prop := ∀ x ∈ l, x < 256

theorem parseOptions_spec (fuel : Nat) (b : Buf) (acc : List (Nat × List Nat)) (hf : b.data.length - b.off < fuel) :
    Post (parseOptions fuel b acc) (fun _ => True) := by
  induction fuel generalizing b acc with
  | zero => omega
  | succ fuel ih =>
    unfold parseOptions
    refine Post.bind (Post.orErr _ (getU8_spec b)) ?_
    rintro ⟨x, b1⟩ h1
    refine Post.ite (fun _ => ih b1 acc (h1.fuel (Nat.le_refl 1) hf)) fun _ => Post.ite (fun _ => trivial) fun _ => ?_
    refine Post.bind (Post.orErr _ (getU8_spec b1)) ?_
    rintro ⟨l, b2⟩ h2
    refine Post.bind (Post.orErr _ (getBytes_spec b2 l)) ?_
    rintro ⟨v, b3⟩ ⟨h3, _⟩
    have ha := (h1.trans h2).trans h3
    exact ih b3 _ (ha.fuel (by omega) hf)

theorem parse_spec (pkt : List Nat) : Post (parse pkt) (fun _ => True) := by
  unfold parse
  refine Post.bind (Post.orErr _ (getU8_spec _)) fun _ h1 => ?_
  refine Post.bind (Post.orErr _ (getU8_spec _)) fun _ h2 => ?_
  refine Post.bind (Post.orErr _ (getU8_spec _)) ?_; rintro ⟨hlen, b3⟩ h3
  refine Post.bind (Post.orErr _ (getU8_spec _)) fun _ h4 => ?_
  refine Post.bind (Post.orErr _ (getBe32_spec _)) fun _ h5 => ?_
  refine Post.bind (Post.orErr _ (getBe16_spec _)) fun _ h6 => ?_
  refine Post.bind (Post.orErr _ (getBe16_spec _)) fun _ h7 => ?_
  refine Post.bind (Post.orErr _ (getIpv4_spec _)) fun _ h8 => ?_
  refine Post.bind (Post.orErr _ (getIpv4_spec _)) fun _ h9 => ?_
  refine Post.bind (Post.orErr _ (getIpv4_spec _)) fun _ h10 => ?_
  refine Post.bind (Post.orErr _ (getIpv4_spec _)) fun _ h11 => ?_
  refine Post.bind (Post.orErr _ (getBytes_spec _ 16)) ?_; rintro ⟨chaddr, b12⟩ ⟨h12, hcl⟩
  refine Post.ite (fun _ => Post.err) fun hh => ?_
  -- the guard `hlen > chaddr.len()` is what keeps `chaddr[0..hlen]` in range
  have hhl : hlen ≤ chaddr.length := by simpa [dhcpHlenChecked] using hh
  refine Post.bind (Post.orErr _ (getBytes_spec _ 64)) fun _ h13 => ?_
  refine Post.bind (Post.orErr _ (getBytes_spec _ 128)) fun _ h14 => ?_
  refine Post.bind (Post.orErr _ (getBe32_spec _)) fun _ h15 => Post.ite (fun _ => Post.err) fun _ => ?_
  have ha := ((((((((((((((h1.trans h2).trans h3).trans h4).trans h5).trans h6).trans h7).trans h8).trans h9).trans
    h10).trans h11).trans h12).trans h13.1).trans h14.1).trans h15)
  refine Post.bind (parseOptions_spec _ _ [] ha.fuel_new) fun _ _ => ?_
  exact Post.bind (post_slice (Nat.zero_le _) hhl) fun _ _ => trivial

/-- any hardware-address length, including 0..5, is handled -/
theorem toArray_spec (mac : List Nat) : Post (toArray mac) (fun _ => True) :=
  Post.ite_pos rfl (Post.ite (fun _ => trivial) fun _ => trivial)

theorem netmask_spec (len : Nat) (h : len < 64) : Post (netmask len) (fun _ => True) := by
  unfold netmask
  exact Post.bind (post_shrU h) fun _ _ => trivial

/-- any prefix-length octet 0..255 is handled: lengths above 32 are an `InvalidSubnet` error -/
theorem subnetNew_spec (addr len : Nat) : Post (subnetNew addr len) (fun _ => True) := by
  unfold subnetNew
  simp only [subnetPrefixLenMax]
  refine Post.ite (fun _ => Post.err) fun h => ?_
  exact Post.bind (netmask_spec len (by omega)) fun _ _ => Post.ite (fun _ => Post.err) fun _ => trivial

theorem decodeRoutes_spec (fuel : Nat) (v : List Nat) (acc : List (Nat × Nat × Nat)) (hf : v.length < fuel) :
    Post (decodeRoutes fuel v acc) (fun _ => True) := by
  induction fuel generalizing v acc with
  | zero => omega
  | succ fuel ih =>
    unfold decodeRoutes
    split
    · trivial
    · rename_i len a b c d rest
      refine Post.bind (subnetNew_spec _ _).toOpt fun r _ => ?_
      split
      · trivial
      · split
        · rename_i e f g h rest'
          exact ih rest' _ (by simp at hf; omega)
        · trivial
    · trivial

/-- shifting left by an octet clears the low octet, so adding one octet cannot carry out of a width of at least 8 bits -/
theorem shl8_add_lt {bits : Nat} (hbits : 8 ≤ bits) (acc x : Nat) (hx : x < 256) : (acc * 256) % 2 ^ bits + x < 2 ^ bits := by
  obtain ⟨k, rfl⟩ : ∃ k, bits = k + 8 := ⟨bits - 8, by omega⟩
  rw [Nat.pow_add, show (2:Nat) ^ 8 = 256 from rfl, Nat.mul_mod_mul_right]
  calc acc % 2 ^ k * 256 + x < acc % 2 ^ k * 256 + 256 := Nat.add_lt_add_left hx _
    _ = (acc % 2 ^ k + 1) * 256 := (Nat.succ_mul ..).symm
    _ ≤ 2 ^ k * 256 := Nat.mul_le_mul_right _ (Nat.mod_lt acc (Nat.two_pow_pos k))

theorem foldU_spec {bits : Nat} (hbits : 8 ≤ bits) (v : List Nat) (hb : Bytes v) : Post (foldU bits v) (fun _ => True) :=
  Post.foldlM v 0 trivial fun a x hx _ => (post_fitU (shl8_add_lt hbits a x (hb x hx))).mono fun _ _ => trivial

/-- on `i32` the shifted accumulator is a multiple of 256, so adding an octet cannot cross `i32::MAX` -/
theorem foldI32_spec (v : List Nat) (hb : Bytes v) : Post (foldI32 v) (fun _ => True) := by
  unfold foldI32
  refine Post.foldlM v 0 trivial fun a x hx _ => Post.ite (fun h => ?_) fun _ => trivial
  have := hb x hx
  omega

theorem decode_spec (ty : String) (v : List Nat) (hb : Bytes v) : Post (decode ty v) (fun _ => True) := by
  unfold decode
  split
  · trivial   -- string
  · trivial   -- unknown
  · trivial   -- hwaddr
  · refine Post.ite (fun _ => trivial) fun h => ?_   -- ip
    have hl : v.length = 4 := by simpa using h
    refine Post.bind (post_idx (by omega)) fun _ _ => ?_
    refine Post.bind (post_idx (by omega)) fun _ _ => ?_
    refine Post.bind (post_idx (by omega)) fun _ _ => ?_
    exact Post.bind (post_idx (by omega)) fun _ _ => trivial
  · trivial   -- iplist
  · exact Post.bind (foldI32_spec v hb) fun _ _ => trivial   -- i32
  · exact Post.ite (fun _ => trivial) fun _ => trivial   -- u8
  · exact Post.ite (fun _ => trivial) fun _ => trivial   -- bool
  · exact Post.bind (foldU_spec (by decide) v hb) fun _ _ => trivial   -- u16
  · exact Post.bind (foldU_spec (by decide) v hb) fun _ _ => trivial   -- sec16
  · exact Post.bind (foldU_spec (by decide) v hb) fun _ _ => trivial   -- u32
  · exact Post.bind (foldU_spec (by decide) v hb) fun _ _ => trivial   -- sec32
  · refine Post.bind (decodeRoutes_spec _ v [] (Nat.lt_succ_self _)) fun r _ => ?_   -- routes
    split <;> trivial
  · refine Post.bind (getDomains_spec _ _ [] (new_wf v) (Nat.lt_succ_self _)).toOpt fun r _ => ?_   -- domains
    split <;> trivial
  · trivial   -- any other name: the harness's error

end Erbium.DhcpSafe
