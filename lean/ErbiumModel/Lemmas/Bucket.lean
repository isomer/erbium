import ErbiumModel.Model.Bucket
/-! The token bucket: what a grant does to the bucket's "last empty" time, and the bound on what a run of arrivals is
    granted that follows from it. The constants of the source enter through `rate_mul_window` and the positivity of
    the rate only. -/
namespace Erbium.Bucket
open Erbium.Generated.Dns (maxTokens tokensPerSecond)

theorem check_iff (e now c : Nat) :
    check e now c = true ↔ cap e now ≤ now ∧ c ≤ (now - cap e now) * tokensPerSecond := by
  simp [check]

theorem rate_mul_window : tokensPerSecond * window = maxTokens := by decide

/-- `cap · t1`, the bucket's "last empty" time as an arrival at `t1` would count it, is the potential of the bound:
    a grant at `now ≥ t1` advances it by enough to pay for the charge at the refill rate (the charge is rounded up to
    whole seconds, which `check` made sure fit before `now`), to a value that the cap at `t1` leaves alone. -/
theorem grant_spec (t1 e now c : Nat) (h1 : t1 ≤ now) (h : check e now c = true) :
    c + tokensPerSecond * cap e t1 ≤ tokensPerSecond * deplete e now c ∧
    cap (deplete e now c) t1 = deplete e now c ∧ deplete e now c ≤ now := by
  obtain ⟨hnow, hpay⟩ := (check_iff e now c).mp h
  have hw : t1 - window ≤ cap e now := Nat.le_trans (Nat.sub_le_sub_right h1 _) (Nat.le_max_right _ _)
  have hmono : tokensPerSecond * cap e t1 ≤ tokensPerSecond * cap e now :=
    Nat.mul_le_mul_left _ (Nat.max_le.mpr ⟨Nat.le_max_left _ _, hw⟩)
  have hr : 0 < tokensPerSecond := by decide
  have hk := Nat.lt_mul_div_succ (c + tokensPerSecond - 1) hr
  have hd : (c + tokensPerSecond - 1) / tokensPerSecond ≤ now - cap e now :=
    (Nat.div_le_iff_le_mul_add_pred hr).mpr (by rw [Nat.mul_comm] at hpay; omega)
  unfold deplete
  generalize (c + tokensPerSecond - 1) / tokensPerSecond = k at *
  rw [Nat.mul_add, Nat.mul_one] at hk
  rw [Nat.mul_add]
  exact ⟨by omega, Nat.max_eq_left (by omega), by omega⟩

theorem step_bound (t1 e now cost : Nat) (h1 : t1 ≤ now) :
    (step e now cost).1 + tokensPerSecond * cap e t1 ≤ tokensPerSecond * cap (step e now cost).2 t1 ∧
    cap (step e now cost).2 t1 ≤ max (cap e t1) now := by
  unfold step
  split
  · obtain ⟨hpay, hcap, hnow⟩ := grant_spec t1 e now cost h1 ‹_›
    rw [hcap]
    exact ⟨hpay, Nat.le_trans hnow (Nat.le_max_right _ _)⟩
  · exact ⟨Nat.le_of_eq (Nat.zero_add _), Nat.le_max_left _ _⟩

theorem run_bound (t1 t2 e : Nat) (ops : List (Nat × Nat))
    (hops : ∀ o ∈ ops, t1 ≤ o.1 ∧ o.1 ≤ t2) :
    (run e ops).1 + tokensPerSecond * cap e t1 ≤ tokensPerSecond * cap (run e ops).2 t1 ∧
    cap (run e ops).2 t1 ≤ max (cap e t1) t2 := by
  induction ops generalizing e with
  | nil => exact ⟨Nat.le_of_eq (Nat.zero_add _), Nat.le_max_left _ _⟩
  | cons o ops ih =>
    have ho := hops o (by simp)
    have hs := step_bound t1 e o.1 o.2 ho.1
    have hi := ih (step e o.1 o.2).2 (fun o h => hops o (by simp [h]))
    simp only [run]
    omega

end Erbium.Bucket
