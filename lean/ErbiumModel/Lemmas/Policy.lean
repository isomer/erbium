import ErbiumModel.Spec.PolicyDoc
import ErbiumModel.Lemmas.Resp
/-! Refinement: the recursive, response-mutating evaluation of `dhcp/mod.rs` (model `Dhcp.applyPolicies`)
    computes exactly the table that the manual's chain semantics (`PolicyDoc`) denotes, and what it sends is what
    that table holds. `apply_policy` is cut into its passes (`Dhcp.implOk`, `withAddress`, `withOptions`, the
    sub-policies, `withSubnetDefaults`; `firstOr` for `apply_policies`): they are the implementation's, not the
    manual's, and stand in `Erbium.Dhcp`. Each fact is proved pass by pass and put together by induction over the
    forest. `Policy` is nested in `List`, so that induction borrows `checkPolicies.mutual_induct`, for its shape alone
    (a policy given its sub-policies; no policy; a policy and its later siblings); nothing about `check_policies`
    enters through it. -/
namespace Erbium.Dhcp

/-- the verdict `apply_policy` acts on -/
def implOk (req : Req) (p : Policy) : Bool :=
  match checkPolicy req p with
  | .failed => false
  | .ok => true
  | .noMatch => checkPolicies req p.subs

def withAddress (e : Option (List Nat)) (r : Resp) : Resp :=
  match e with
  | some a => { r with address := some a }
  | none => r

/-- the policy's own `apply-<option>` entries, for the options the client asked for -/
def withOptions (pl : List Nat) (l : List (Nat × Option Bytes)) (r : Resp) : Resp :=
  l.foldl (fun acc (k, v) => if pl.contains k then setOpt acc k v else acc) r

/-- the subnet defaults `apply_policy` adds on the way out -/
def withSubnetDefaults (pl : List Nat) (ms : Option (Nat × Nat)) (r : Resp) : Resp :=
  match ms with
  | some s =>
    let r := if pl.contains 1 then setOptDefault r 1 (ser32 (netmask s.2)) else r
    if pl.contains 28 then setOptDefault r 28 (ser32 (subnetBroadcast s)) else r
  | none => r

def firstOr (x : Option Resp) (y : Resp × Bool) : Resp × Bool :=
  match x with
  | some r' => (r', true)
  | none => y

theorem applyPolicy_unfold (req : Req) (a : Bool) (b : Option Bytes) (c : Option (Nat × Nat)) (d : List (Nat × Option Bytes))
    (e : Option (List Nat)) (f : List (Nat × Option Bytes)) (s : List Policy) (r : Resp) :
    applyPolicy req (.mk a b c d e f s) r =
      if !implOk req (.mk a b c d e f s) then none else
      some (withSubnetDefaults (paramList req) c
        (applyPolicies req s (withOptions (paramList req) f (withAddress e r))).1) := by
  conv => lhs; unfold applyPolicy
  simp only [implOk, Policy.subs, withSubnetDefaults, withOptions, withAddress]
  cases e <;> rfl

theorem applyPolicies_nil (req : Req) (r : Resp) : applyPolicies req [] r = (r, false) := by
  conv => lhs; unfold applyPolicies

theorem applyPolicies_cons (req : Req) (p : Policy) (ps : List Policy) (r : Resp) :
    applyPolicies req (p :: ps) r = firstOr (applyPolicy req p r) (applyPolicies req ps r) := by
  conv => lhs; unfold applyPolicies
  generalize applyPolicy req p r = x
  cases x <;> rfl

theorem setOptDefault_address (r : Resp) (k : Nat) (v : Bytes) : (setOptDefault r k v).address = r.address := by
  unfold setOptDefault; split <;> rfl

theorem withOptions_address (pl : List Nat) (l : List (Nat × Option Bytes)) (r : Resp) :
    (withOptions pl l r).address = r.address :=
  List.foldlRecOn l _ (motive := fun acc : Resp => acc.address = r.address) rfl fun acc hacc (k, v) _ => by
    dsimp only; split <;> exact hacc

theorem withSubnetDefaults_address (pl : List Nat) (ms : Option (Nat × Nat)) (r : Resp) :
    (withSubnetDefaults pl ms r).address = r.address := by
  cases ms with
  | none => rfl
  | some s => simp only [withSubnetDefaults]; split <;> split <;> simp only [setOptDefault_address]

end Erbium.Dhcp

namespace Erbium.PolicyDoc
open Erbium.Dhcp

theorem otherCond_eq (req : Req) : otherCondHolds req = optionCondHolds req := by
  funext e
  unfold otherCondHolds optionCondHolds
  generalize lookupOpt req.pkt.options e.fst = l
  generalize e.snd = m
  cases m <;> cases l <;> rfl

/-- `check_policy` answers "failed" when a condition fails, "ok" when all of at least one hold, and
    "no match" when there is none -/
theorem checkPolicy_eq (req : Req) (p : Policy) :
    checkPolicy req p = bif hasConds p then (bif condsHold req p then .ok else .failed) else .noMatch := by
  obtain ⟨matchAll, matchChaddr, matchSubnet, matchOther, a, o, subs⟩ := p
  -- an empty list of option conditions holds (`he`); apart from that the verdict is a function of Booleans:
  -- which conditions are present, and whether each holds. Every row of the table is `rfl`, except the rows
  -- `he` excludes (`emp = true`, `all = false`): those go to the second alternative of `first`.
  have he : matchOther.isEmpty = true → matchOther.all (otherCondHolds req) = true := by
    cases matchOther <;> simp
  rcases matchChaddr with _ | m <;> rcases matchSubnet with _ | s <;>
    simp only [checkPolicy, hasConds, condsHold, ← otherCond_eq] <;> revert he <;>
    generalize matchOther.all (otherCondHolds req) = all <;> generalize matchOther.isEmpty = emp
  · cases matchAll <;> cases all <;> cases emp <;> first | exact fun _ => rfl | exact fun he => Bool.noConfusion (he rfl)
  · generalize subnetContains s req.serverip = b2
    cases b2 <;> cases matchAll <;> cases all <;> cases emp <;>
      first | exact fun _ => rfl | exact fun he => Bool.noConfusion (he rfl)
  · rw [show (req.pkt.chaddr != m) = !(req.pkt.chaddr == m) from rfl]
    generalize (req.pkt.chaddr == m) = b1
    cases b1 <;> cases matchAll <;> cases all <;> cases emp <;>
      first | exact fun _ => rfl | exact fun he => Bool.noConfusion (he rfl)
  · rw [show (req.pkt.chaddr != m) = !(req.pkt.chaddr == m) from rfl]
    generalize (req.pkt.chaddr == m) = b1
    generalize subnetContains s req.serverip = b2
    cases b1 <;> cases b2 <;> cases matchAll <;> cases all <;> cases emp <;>
      first | exact fun _ => rfl | exact fun he => Bool.noConfusion (he rfl)

/-- `check_policies`, and the verdict `apply_policy` acts on, are the manual's "applies" -/
theorem implOk_eq (req : Req) :
    (∀ ps, checkPolicies req ps = anyApplies req ps) ∧ (∀ p, implOk req p = applies req p) := by
  apply checkPolicies.mutual_induct (motive_1 := fun ps => checkPolicies req ps = anyApplies req ps)
    (motive_2 := fun p => implOk req p = applies req p)
  · intro a b c d e f s ih
    rw [implOk, checkPolicy_eq, applies, Policy.subs, ih]
    by_cases hc : hasConds (Policy.mk a b c d e f s) = true <;>
      by_cases hh : condsHold req (Policy.mk a b c d e f s) = true <;> simp [hc, hh]
  · simp [checkPolicies, anyApplies]
  · intro p ps ihp ihps
    rw [checkPolicies, anyApplies, ihps, ← ihp]
    congr 1
    obtain ⟨a, b, c, d, e, f, s⟩ := p
    unfold implOk checkSubs
    cases checkPolicy req (.mk a b c d e f s) <;> rfl

theorem chainIn_cons (req : Req) (p : Policy) (ps : List Policy) :
    chainIn req (p :: ps) = if applies req p then chainOf req p else chainIn req ps := by
  conv => lhs; unfold chainIn

/-! ### the table (`ropt`) through the passes -/

@[simp] theorem orr_some {β : Type} (v : β) (b : Option β) : orr (some v) b = some v := rfl
@[simp] theorem orr_none {β : Type} (b : Option β) : orr none b = b := rfl
@[simp] theorem orr_none_right {β : Type} (a : Option β) : orr a none = a := by cases a <;> rfl
theorem orr_map_some {β : Type} (a b : Option β) : (orr a b).map some = orr (a.map some) (b.map some) := by
  cases a <;> rfl
theorem orr_assoc {β : Type} (a b c : Option β) : orr (orr a b) c = orr a (orr b c) := by cases a <;> rfl

theorem ropt_address (r : Resp) (a : Option (List Nat)) (k : Nat) : ropt { r with address := a } k = ropt r k := rfl

theorem ropt_withAddress (e : Option (List Nat)) (r : Resp) (k : Nat) : ropt (withAddress e r) k = ropt r k := by
  cases e <;> rfl

/-- the last entry for `k` decides, if the client asked for `k` -/
theorem ropt_withOptions (pl : List Nat) (l : List (Nat × Option Bytes)) (r : Resp) (k : Nat) :
    ropt (withOptions pl l r) k
      = if pl.contains k then orr (l.foldl (fun acc e => if e.1 == k then some e.2 else acc) none) (ropt r k)
        else ropt r k := by
  -- from the last entry backwards, where both folds unfold at the head
  rw [withOptions, List.foldl_eq_foldr_reverse, List.foldl_eq_foldr_reverse]
  generalize l.reverse = l
  induction l with
  | nil => simp
  | cons e es ih =>
    obtain ⟨ek, ev⟩ := e
    simp only [List.foldr_cons]
    by_cases hek : pl.contains ek = true
    · rw [if_pos hek, ropt_setOpt, ih]
      by_cases h : k = ek
      · subst h; simp only [if_pos hek, beq_self_eq_true, if_true, orr_some]
      · have : (ek == k) = false := by simpa using fun e => h e.symm
        simp only [if_neg h, this, Bool.false_eq_true, if_false]
    · rw [if_neg hek, ih]
      by_cases hk : pl.contains k = true
      · have : (ek == k) = false := by simpa using fun (e : ek = k) => hek (e ▸ hk)
        simp only [this, Bool.false_eq_true, if_false]
      · simp only [if_neg hk]

theorem ropt_setOptDefault (r : Resp) (k : Nat) (v : Bytes) (k' : Nat) :
    ropt (setOptDefault r k v) k' = orr (ropt r k') (if k' = k then some (some v) else none) := by
  unfold setOptDefault
  by_cases hk : k' = k
  · subst hk; cases h : ropt r k' <;> simp [ropt_setOpt, h]
  · split <;> simp [ropt_setOpt, hk]

theorem ropt_ite_setOptDefault (b : Bool) (r : Resp) (k : Nat) (v : Bytes) (k' : Nat) :
    ropt (if b then setOptDefault r k v else r) k' =
      orr (ropt r k') (if b = true ∧ k' = k then some (some v) else none) := by
  cases b <;> simp [ropt_setOptDefault]

theorem ropt_withSubnetDefaults (pl : List Nat) (ms : Option (Nat × Nat)) (r : Resp) (k : Nat) :
    ropt (withSubnetDefaults pl ms r) k =
      orr (ropt r k) (if (k == 1 || k == 28) && pl.contains k then (ms.map (subnetValue · k)).map some else none) := by
  cases ms with
  | none => simp [withSubnetDefaults]
  | some s =>
    simp only [withSubnetDefaults, ropt_ite_setOptDefault, orr_assoc]
    congr 1
    by_cases k1 : k = 1
    · subst k1; simp [subnetValue]
    · by_cases k28 : k = 28
      · subst k28; simp [subnetValue]
      · simp [k1, k28]

theorem findSome_reverse_cons {α β : Type} (f : α → Option β) (p : α) (c : List α) :
    (p :: c).reverse.findSome? f = orr (c.reverse.findSome? f) (f p) := by
  rw [List.reverse_cons, List.findSome?_append]
  cases c.reverse.findSome? f with
  | some v => rfl
  | none => simp

theorem chainValue_cons (p : Policy) (c : List Policy) (k : Nat) :
    chainValue (p :: c) k = orr (chainValue c k) (mention p k) := by
  unfold chainValue; exact findSome_reverse_cons _ p c

theorem subnetDefault_cons (p : Policy) (c : List Policy) (k : Nat) :
    subnetDefault (p :: c) k = orr (subnetDefault c k) (p.matchSubnet.map (subnetValue · k)) := by
  unfold subnetDefault; exact findSome_reverse_cons _ p c

theorem tableAfter_nil (pl : List Nat) (before : Nat → Option (Option Bytes)) (k : Nat) :
    tableAfter pl before [] k = before k := by
  unfold tableAfter chainValue subnetDefault
  cases before k <;> simp

/-- one level: own entries, then the sub-chain, then the subnet defaults = the table of `p :: chain` -/
theorem level_table (pl : List Nat) (p : Policy) (c : List Policy) (before : Nat → Option (Option Bytes))
    (r2 r3 : Nat → Option (Option Bytes)) (k : Nat)
    (h2 : r2 k = if pl.contains k then orr (mention p k) (before k) else before k)
    (h3 : r3 k = tableAfter pl r2 c k) :
    orr (r3 k) (if (k == 1 || k == 28) && pl.contains k then (p.matchSubnet.map (subnetValue · k)).map some else none)
      = tableAfter pl before (p :: c) k := by
  rw [h3]
  unfold tableAfter
  rw [chainValue_cons, subnetDefault_cons, h2]
  -- both sides are first-answer chains in the same order: innermost mentions, this policy's, what was there
  -- before, the inner subnet's default, this policy's subnet's
  by_cases hk : pl.contains k = true
  · by_cases hkk : (k == 1 || k == 28) = true
    · simp only [hk, hkk, Bool.not_true, Bool.false_eq_true, if_false, if_true, Bool.and_true, orr_assoc, orr_map_some]
    · simp only [hk, hkk, Bool.not_true, Bool.false_eq_true, if_false, if_true, Bool.false_and, orr_assoc, orr_none_right]
  · simp only [hk, Bool.not_false, if_true, Bool.and_false, Bool.false_eq_true, if_false, orr_none_right]

/-- **Refinement.** `apply_policies` applies the first sibling that the manual says applies, and the
    response it returns carries exactly the table the chain denotes. -/
theorem apply_refines (req : Req) :
    (∀ ps r, (applyPolicies req ps r).2 = anyApplies req ps ∧
        ∀ k, ropt (applyPolicies req ps r).1 k = tableAfter (paramList req) (ropt r) (chainIn req ps) k) ∧
    (∀ p r, (applyPolicy req p r).isSome = applies req p ∧
        ∀ r', applyPolicy req p r = some r' → ∀ k, ropt r' k = tableAfter (paramList req) (ropt r) (chainOf req p) k) := by
  apply checkPolicies.mutual_induct
    (motive_1 := fun ps => ∀ r, (applyPolicies req ps r).2 = anyApplies req ps ∧
        ∀ k, ropt (applyPolicies req ps r).1 k = tableAfter (paramList req) (ropt r) (chainIn req ps) k)
    (motive_2 := fun p => ∀ r, (applyPolicy req p r).isSome = applies req p ∧
        ∀ r', applyPolicy req p r = some r' → ∀ k, ropt r' k = tableAfter (paramList req) (ropt r) (chainOf req p) k)
  · -- a policy, given its sub-policies
    intro a b c d e f s ih r
    rw [applyPolicy_unfold, (implOk_eq req).2]
    by_cases hap : applies req (.mk a b c d e f s) = true
    · simp only [hap, Bool.not_true, Bool.false_eq_true, if_false, Option.isSome_some, true_and]
      intro r' hr' k
      cases hr'
      rw [chainOf, ropt_withSubnetDefaults]
      refine level_table (paramList req) (.mk a b c d e f s) (chainIn req s) (ropt r) _ _ k ?_ ((ih _).2 k)
      rw [ropt_withOptions, ropt_withAddress]
      rfl
    · have hap' : applies req (.mk a b c d e f s) = false := by simpa using hap
      simp [hap']
  · intro r
    rw [applyPolicies_nil]
    exact ⟨by simp [anyApplies], fun k => by rw [chainIn, tableAfter_nil]⟩
  · intro p ps ihp ihps r
    rw [applyPolicies_cons, chainIn_cons]
    have h1 := (ihp r).1
    have h2 := (ihp r).2
    cases hp : applyPolicy req p r with
    | some r' =>
      rw [hp] at h1
      have hap : applies req p = true := by simpa using h1.symm
      simp only [hap, if_true, firstOr]
      exact ⟨by simp [anyApplies, hap], h2 r' hp⟩
    | none =>
      rw [hp] at h1
      have hap : applies req p = false := by simpa using h1.symm
      simp only [hap, firstOr]
      exact ⟨by rw [(ihps r).1]; simp [anyApplies, hap], fun k => by simpa using (ihps r).2 k⟩

/-! ### what is sent, through the passes -/

/-- what is sent for `k` is the value in the three-state table (`null` = nothing) -/
def SentIsTable (r : Resp) : Prop := ∀ k, lookupOpt (toOptions r) k = (ropt r k).bind id

theorem sentIsTable_setOpt {r : Resp} (h : SentIsTable r) (k : Nat) (v : Option Bytes) : SentIsTable (setOpt r k v) := by
  intro k'
  rw [sent_setOpt, ropt_setOpt]
  split
  · rfl
  · exact h k'

theorem sentIsTable_withOptions (pl : List Nat) (l : List (Nat × Option Bytes)) {r : Resp} (h : SentIsTable r) :
    SentIsTable (withOptions pl l r) :=
  List.foldlRecOn l _ h fun acc hacc (k, v) _ => by
    dsimp only
    split
    · exact sentIsTable_setOpt hacc k v
    · exact hacc

theorem sentIsTable_ite_setOptDefault {r : Resp} (h : SentIsTable r) (b : Bool) (k : Nat) (v : Bytes) :
    SentIsTable (if b then setOptDefault r k v else r) := by
  unfold setOptDefault
  split
  · split
    · exact h
    · exact sentIsTable_setOpt h k (some v)
  · exact h

theorem sentIsTable_withSubnetDefaults (pl : List Nat) (ms : Option (Nat × Nat)) {r : Resp} (h : SentIsTable r) :
    SentIsTable (withSubnetDefaults pl ms r) := by
  cases ms with
  | none => exact h
  | some s => exact sentIsTable_ite_setOptDefault (sentIsTable_ite_setOptDefault h _ _ _) _ _ _

theorem sentIsTable_apply (req : Req) :
    (∀ ps r, SentIsTable r → SentIsTable (applyPolicies req ps r).1) ∧
    (∀ p r, SentIsTable r → ∀ r', applyPolicy req p r = some r' → SentIsTable r') := by
  apply checkPolicies.mutual_induct
    (motive_1 := fun ps => ∀ r, SentIsTable r → SentIsTable (applyPolicies req ps r).1)
    (motive_2 := fun p => ∀ r, SentIsTable r → ∀ r', applyPolicy req p r = some r' → SentIsTable r')
  · intro a b c d e f s ih r hr r' h
    rw [applyPolicy_unfold] at h
    split at h
    · cases h
    · cases h
      exact sentIsTable_withSubnetDefaults _ _ (ih _ (sentIsTable_withOptions _ _ (by cases e <;> exact hr)))
  · intro r hr; rw [applyPolicies_nil]; exact hr
  · intro p ps ihp ihps r hr
    rw [applyPolicies_cons]
    cases hp : applyPolicy req p r with
    | some r' => exact ihp r hr r' hp
    | none => exact ihps r hr

end Erbium.PolicyDoc
