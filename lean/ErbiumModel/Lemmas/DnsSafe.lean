import ErbiumModel.Lemmas.Safe
import ErbiumModel.Model.DnsSafe
/-! `dns/parse.rs` never panics: every index and slice is in range, no `u16`/`u32` expression
    overflows, the error message of `get_bytes` never underflows, the name reader terminates (the fuel
    `(len + 2) * (limit + 2)` always suffices) and the `panic!` arm of `get_dns` is unreachable. At the end, the
    EDNS option accessors of the handlers (`get_cookie`, `get_extended_dns_error`). -/
namespace Erbium.DnsSafe
open Erbium.Safe Erbium.DnsWire Erbium.Generated.Pkt

def IsBytes (l : List Nat) : Prop := ∀ x ∈ l, x < 256

theorem IsBytes.take {l : List Nat} (h : IsBytes l) (n : Nat) : IsBytes (l.take n) :=
  fun x hx => h x (List.mem_of_mem_take hx)
theorem IsBytes.drop {l : List Nat} (h : IsBytes l) (n : Nat) : IsBytes (l.drop n) :=
  fun x hx => h x (List.mem_of_mem_drop hx)

/-- parser state over the fixed message `buf`, cursor inside it. Every reader leaves the state so. What it asks of the
    state it starts from is only `p.buf = buf` where the guard of `peek_u8` is all that is needed (a compression pointer
    sends the name reader anywhere in 0..16383), and `Inv buf p` where `get_bytes` is called first, whose error message
    subtracts the offset from the length. -/
def Inv (buf : Bytes) (p : P) : Prop := p.buf = buf ∧ p.off ≤ buf.length

section
variable {buf : Bytes}

theorem getU8_spec (p : P) (hp : p.buf = buf) :
    Post (getU8 p) (fun r => Inv buf r.2 ∧ r.2.off = p.off + 1 ∧ p.off < buf.length ∧ (IsBytes buf → r.1 < 256)) := by
  unfold getU8 peekU8
  refine Post.bind (Post.ite (fun h => ?_) fun _ => Post.err) fun _ h => h
  have h : p.off < p.buf.length := of_decide_eq_true h
  rw [idx_ok h]
  subst hp
  exact ⟨⟨rfl, h⟩, rfl, h, fun hb => hb _ (List.getElem_mem h)⟩

theorem getU8_byte (hb : IsBytes buf) (p : P) (hp : p.buf = buf) :
    Post (getU8 p) (fun r => Inv buf r.2 ∧ r.1 < 256) := by
  refine (getU8_spec p hp).mono ?_; rintro _ ⟨hi, _, _, hlt⟩
  exact ⟨hi, hlt hb⟩

theorem getU16_spec (hb : IsBytes buf) (p : P) (hp : p.buf = buf) :
    Post (getU16 p) (fun r => Inv buf r.2) := by
  unfold getU16
  refine Post.bind (getU8_byte hb p hp) ?_; rintro _ ⟨h1, ha⟩
  refine Post.bind (post_fitU (by omega)) ?_; rintro _ rfl
  refine Post.bind (getU8_byte hb _ h1.1) ?_; rintro _ ⟨h2, hb2⟩
  exact Post.bind (post_fitU (by omega)) fun _ _ => h2

theorem getU32_spec (hb : IsBytes buf) (p : P) (hp : p.buf = buf) :
    Post (getU32 p) (fun r => Inv buf r.2) := by
  unfold getU32
  refine Post.bind (getU8_byte hb p hp) ?_; rintro _ ⟨h1, ha⟩
  refine Post.bind (post_fitU (by omega)) ?_; rintro _ rfl
  refine Post.bind (getU8_byte hb _ h1.1) ?_; rintro _ ⟨h2, hbb⟩
  refine Post.bind (post_fitU (by omega)) ?_; rintro _ rfl
  refine Post.bind (post_fitU (by omega)) ?_; rintro _ rfl
  refine Post.bind (getU8_byte hb _ h2.1) ?_; rintro _ ⟨h3, hc⟩
  refine Post.bind (post_fitU (by omega)) ?_; rintro _ rfl
  refine Post.bind (post_fitU (by omega)) ?_; rintro _ rfl
  refine Post.bind (getU8_byte hb _ h3.1) ?_; rintro _ ⟨h4, hd⟩
  exact Post.bind (post_fitU (by omega)) fun v _ => h4

/-- `get_bytes` on a cursor inside the message: in range on success, and the failing branch's
    `len - offset` does not underflow -/
theorem getBytes_spec (p : P) (n : Nat) (hp : Inv buf p) :
    Post (getBytes p n) (fun r => Inv buf r.2 ∧ r.2.off = p.off + n ∧ r.1 = (buf.take (p.off + n)).drop p.off) := by
  obtain ⟨rfl, hpo⟩ := hp
  unfold getBytes
  refine Post.ite (fun h => ?_) fun _ => Post.bind (post_subU hpo) fun _ _ => Post.err
  have h : p.off + n ≤ p.buf.length := of_decide_eq_true h
  exact Post.bind (post_slice (Nat.le_add_right ..) h) fun _ hr => ⟨⟨rfl, h⟩, rfl, hr.1⟩

theorem getString_spec (p : P) (hp : p.buf = buf) : Post (getString p) (fun r => Inv buf r.2) := by
  unfold getString
  refine Post.bind (getU8_spec p hp) ?_; rintro _ ⟨h1, _⟩
  exact (getBytes_spec _ _ h1).mono fun _ h => h.1

/-- termination measure of the name reader: pointer levels left, then octets left at this level -/
def M (len limit off depth : Nat) : Nat :=
  (limit + 1 - depth) * (len + 2) + (len + 1 - min off (len + 1)) + 1

/-- reading on at the same pointer level, from a cursor inside the message, lowers the measure -/
theorem M_read {len L off off' depth : Nat} (h : off < len) (h' : off < off') : M len L off' depth < M len L off depth := by
  unfold M
  generalize (L + 1 - depth) * (len + 2) = A
  omega

/-- following a pointer lowers the measure, wherever it leads -/
theorem M_jump {len L off off' depth : Nat} (h : depth ≤ L) : M len L off' (depth + 1) < M len L off depth := by
  unfold M
  have : L + 1 - depth = (L + 1 - (depth + 1)) + 1 := by omega
  rw [this, Nat.succ_mul]
  have := Nat.sub_le (len + 1) (min off' (len + 1))
  generalize len + 1 - min off' (len + 1) = x at this ⊢
  omega

theorem M_le_nameFuel (buf : Bytes) (off : Nat) : M buf.length Generated.Dns.pointerDepthLimit off 1 ≤ nameFuel buf := by
  unfold M nameFuel
  rw [Nat.add_sub_cancel, Nat.mul_comm (buf.length + 2), Nat.add_mul]
  generalize Generated.Dns.pointerDepthLimit * (buf.length + 2) = A
  omega

theorem getDomainInto_spec (fuel : Nat) (p : P) (depth : Nat) (hp : p.buf = buf)
    (hf : M buf.length Generated.Dns.pointerDepthLimit p.off depth ≤ fuel) :
    Post (getDomainInto fuel p depth) (fun r => Inv buf r.2) := by
  induction fuel generalizing p depth with
  | zero => exact absurd hf (by unfold M; omega)
  | succ fuel ih =>
    unfold getDomainInto
    refine Post.bind (getU8_spec p hp) ?_
    rintro ⟨pre, p1⟩ ⟨h1, ho1, hlt, _⟩
    simp only at h1 ho1
    refine Post.ite (fun _ => h1) fun _ => Post.ite (fun _ => ?label) fun _ =>
      Post.ite (fun _ => Post.ite (fun _ => Post.err) fun hdep => ?pointer) fun _ => Post.err
    case label =>
      refine Post.bind (getBytes_spec p1 pre h1) ?_
      rintro ⟨l, p2⟩ ⟨h2, ho2, _⟩
      simp only at ho2
      have := M_read (L := Generated.Dns.pointerDepthLimit) (depth := depth) hlt (show p.off < p2.off by omega)
      exact Post.bind (ih p2 depth h2.1 (by omega)) fun _ h3 => h3
    case pointer =>
      refine Post.bind (getU8_spec p1 h1.1) ?_
      rintro ⟨lo, p2⟩ ⟨h2, _, _, _⟩
      have := M_jump (len := buf.length) (off := p.off) (off' := (pre - 192) * 256 + lo) (Nat.not_lt.mp hdep)
      exact Post.bind (ih { p2 with off := (pre - 192) * 256 + lo } (depth + 1) h2.1 (by dsimp only; omega)) fun _ _ => h2

theorem getDomain_spec (p : P) (hp : p.buf = buf) : Post (getDomain p) (fun r => Inv buf r.2) := by
  unfold getDomain
  refine Post.bind (getDomainInto_spec _ p 1 hp (hp ▸ M_le_nameFuel p.buf p.off)) fun _ hi => ?_
  exact Post.ite (fun _ => Post.err) fun _ => hi

theorem ednsOptions_spec (fuel : Nat) (b : Bytes) (hb : IsBytes b) (hf : b.length < fuel) :
    Post (ednsOptions fuel b) (fun _ => True) := by
  induction fuel generalizing b with
  | zero => omega
  | succ fuel ih =>
    unfold ednsOptions
    split
    · trivial
    · rename_i c1 c2 l1 l2 rest
      obtain ⟨hc1, hc2, hl1, hl2, hb⟩ : c1 < 256 ∧ c2 < 256 ∧ l1 < 256 ∧ l2 < 256 ∧ IsBytes rest := by
        simpa only [IsBytes, List.forall_mem_cons] using hb
      refine Post.bind (post_fitU (by omega)) ?_; rintro _ rfl
      refine Post.bind (post_fitU (by omega)) fun code _ => ?_
      refine Post.bind (post_fitU (by omega)) ?_; rintro _ rfl
      refine Post.bind (post_fitU (by omega)) fun len _ => ?_
      refine Post.ite (fun _ => Post.err) fun hs => ?_
      have hle : len ≤ rest.length := Nat.not_lt.mp fun h => hs (decide_eq_true h)
      refine Post.bind (post_slice (Nat.zero_le _) hle) fun data _ => ?_
      refine Post.bind (post_slice hle (Nat.le_refl _)) fun tail ht => ?_
      refine Post.bind (ih tail (ht.1 ▸ (hb.take _).drop _) ?_) fun _ _ => trivial
      have : rest.length + 4 < fuel + 1 := hf
      omega
    · trivial

/-- a record of type OPT carries `RData::Opt`: what makes the `panic!` arm of `get_dns` unreachable -/
def OptOk (rtype : Nat) (rd : RData) : Prop := rtype = T_OPT → ∃ o, rd = .opt o

theorem rdName_spec (mk : Name → RData) (p : P) (hp : p.buf = buf) : Post (rdName mk p) (fun r => Inv buf r.2) := by
  unfold rdName
  exact Post.bind (getDomain_spec p hp) fun _ h1 => h1

theorem rdU16Name_spec (hb : IsBytes buf) (mk : Nat → Name → RData) (p : P) (hp : p.buf = buf) :
    Post (rdU16Name mk p) (fun r => Inv buf r.2) := by
  unfold rdU16Name
  refine Post.bind (getU16_spec hb p hp) fun _ h1 => ?_
  exact Post.bind (getDomain_spec _ h1.1) fun _ h2 => h2

theorem rdRp_spec (p : P) (hp : p.buf = buf) : Post (rdRp p) (fun r => Inv buf r.2) := by
  unfold rdRp
  refine Post.bind (getDomain_spec p hp) fun _ h1 => ?_
  exact Post.bind (getDomain_spec _ h1.1) fun _ h2 => h2

theorem rdNaptr_spec (hb : IsBytes buf) (p : P) (hp : p.buf = buf) : Post (rdNaptr p) (fun r => Inv buf r.2) := by
  unfold rdNaptr
  refine Post.bind (getU16_spec hb p hp) fun _ h1 => ?_
  refine Post.bind (getU16_spec hb _ h1.1) fun _ h2 => ?_
  refine Post.bind (getString_spec _ h2.1) fun _ h3 => ?_
  refine Post.bind (getString_spec _ h3.1) fun _ h4 => ?_
  refine Post.bind (getString_spec _ h4.1) fun _ h5 => ?_
  exact Post.bind (getDomain_spec _ h5.1) fun _ h6 => h6

theorem rdOpt_spec (hb : IsBytes buf) (rdlen : Nat) (p : P) (hp : Inv buf p) :
    Post (rdOpt rdlen p) (fun r => Inv buf r.2 ∧ ∃ o, r.1 = .opt o) := by
  unfold rdOpt
  refine Post.bind (getBytes_spec p rdlen hp) ?_
  rintro ⟨b, p1⟩ ⟨h1, _, hbv⟩
  have hbb : IsBytes b := by rw [show b = _ from hbv]; exact (hb.take _).drop _
  exact Post.bind (ednsOptions_spec _ b hbb (Nat.lt_succ_self _)) fun os _ => ⟨h1, os, rfl⟩

theorem rdSoa_spec (hb : IsBytes buf) (p : P) (hp : p.buf = buf) : Post (rdSoa p) (fun r => Inv buf r.2) := by
  unfold rdSoa
  refine Post.bind (getDomain_spec p hp) fun _ h1 => ?_
  refine Post.bind (getDomain_spec _ h1.1) fun _ h2 => ?_
  refine Post.bind (getU32_spec hb _ h2.1) fun _ h3 => ?_
  refine Post.bind (getU32_spec hb _ h3.1) fun _ h4 => ?_
  refine Post.bind (getU32_spec hb _ h4.1) fun _ h5 => ?_
  refine Post.bind (getU32_spec hb _ h5.1) fun _ h6 => ?_
  exact Post.bind (getU32_spec hb _ h6.1) fun _ h7 => h7

theorem rdOther_spec (rdlen : Nat) (p : P) (hp : Inv buf p) :
    Post (rdOther rdlen p) (fun r => Inv buf r.2) := by
  unfold rdOther
  exact Post.bind (getBytes_spec p rdlen hp) fun _ h => h.1

theorem rdDispatch_inv (hb : IsBytes buf) (rtype rdlen : Nat) (p : P) (hp : Inv buf p) :
    Post (rdDispatch rtype rdlen p) (fun r => Inv buf r.2) := by
  unfold rdDispatch
  refine Post.ite (fun _ => rdName_spec _ p hp.1) fun _ => ?_
  refine Post.ite (fun _ => rdName_spec _ p hp.1) fun _ => ?_
  refine Post.ite (fun _ => rdName_spec _ p hp.1) fun _ => ?_
  refine Post.ite (fun _ => rdU16Name_spec hb _ p hp.1) fun _ => ?_
  refine Post.ite (fun _ => rdRp_spec p hp.1) fun _ => ?_
  refine Post.ite (fun _ => rdU16Name_spec hb _ p hp.1) fun _ => ?_
  refine Post.ite (fun _ => rdU16Name_spec hb _ p hp.1) fun _ => ?_
  refine Post.ite (fun _ => rdNaptr_spec hb p hp.1) fun _ => ?_
  refine Post.ite (fun _ => (rdOpt_spec hb rdlen p hp).mono fun _ h => h.1) fun _ => ?_
  exact Post.ite (fun _ => rdSoa_spec hb p hp.1) fun _ => rdOther_spec rdlen p hp

/-- at type OPT the dispatch is `rdOpt` by evaluation of the conditions before it; at any other type `OptOk` asks nothing -/
theorem rdDispatch_spec (hb : IsBytes buf) (rtype rdlen : Nat) (p : P) (hp : Inv buf p) :
    Post (rdDispatch rtype rdlen p) (fun r => Inv buf r.2 ∧ OptOk rtype r.1) := by
  by_cases ho : rtype = T_OPT
  · subst ho
    exact (show Post (rdOpt rdlen p) _ from rdOpt_spec hb rdlen p hp).mono fun _ h => ⟨h.1, fun _ => h.2⟩
  · exact (rdDispatch_inv hb rtype rdlen p hp).mono fun _ h => ⟨h, fun h' => absurd h' ho⟩

theorem getRData_spec (hb : IsBytes buf) (p : P) (rtype : Nat) (hp : p.buf = buf) :
    Post (getRData p rtype) (fun r => Inv buf r.2 ∧ OptOk rtype r.1) := by
  unfold getRData
  refine Post.bind (getU16_spec hb p hp) fun _ h0 => ?_
  exact rdDispatch_spec hb rtype _ _ h0

theorem getRR_spec (hb : IsBytes buf) (p : P) (hp : p.buf = buf) :
    Post (getRR p) (fun r => Inv buf r.2 ∧ OptOk r.1.rrtype r.1.rdata) := by
  unfold getRR
  refine Post.bind (getDomain_spec p hp) fun _ h1 => ?_
  refine Post.bind (getU16_spec hb _ h1.1) fun _ h2 => ?_
  refine Post.bind (getU16_spec hb _ h2.1) fun _ h3 => ?_
  refine Post.bind (getU32_spec hb _ h3.1) fun _ h4 => ?_
  exact Post.bind (getRData_spec hb _ _ h4.1) fun _ h5 => h5

theorem getRRs_spec (hb : IsBytes buf) (trunc : Bool) (n : Nat) (p : P) (hp : Inv buf p) :
    Post (getRRs trunc n p) (fun r => Inv buf r.2 ∧ ∀ rr ∈ r.1, OptOk rr.rrtype rr.rdata) := by
  induction n generalizing p with
  | zero => exact ⟨hp, by simp⟩
  | succ n ih =>
    unfold getRRs
    refine Post.ite (fun _ => ⟨hp, by simp⟩) fun _ => ?_
    refine Post.bind (getRR_spec hb p hp.1) fun _ h1 => ?_
    refine Post.bind (ih _ h1.1) fun _ h2 => ⟨h2.1, fun x hx => ?_⟩
    rcases List.mem_cons.mp hx with rfl | hx
    · exact h1.2
    · exact h2.2 x hx

theorem parse_spec (hb : IsBytes buf) : Post (parse buf) (fun _ => True) := by
  unfold parse
  refine Post.bind (getU16_spec hb _ rfl) fun _ h1 => ?_
  refine Post.bind (getU8_spec _ h1.1) ?_; rintro _ ⟨h2, _⟩
  refine Post.bind (getU8_spec _ h2.1) ?_; rintro _ ⟨h3, _⟩
  refine Post.bind (getU16_spec hb _ h3.1) fun _ h4 => ?_
  refine Post.ite (fun _ => Post.err) fun _ => ?_
  refine Post.bind (getU16_spec hb _ h4.1) fun _ h5 => ?_
  refine Post.bind (getU16_spec hb _ h5.1) fun _ h6 => ?_
  refine Post.bind (getU16_spec hb _ h6.1) fun _ h7 => ?_
  refine Post.bind (getDomain_spec _ h7.1) fun _ h8 => ?_
  refine Post.bind (getU16_spec hb _ h8.1) fun _ h9 => ?_
  refine Post.bind (getU16_spec hb _ h9.1) fun _ h10 => ?_
  refine Post.bind (getRRs_spec hb _ _ _ h10) fun _ h11 => ?_
  refine Post.bind (getRRs_spec hb _ _ _ h11.1) fun _ h12 => ?_
  refine Post.bind (getRRs_spec hb _ _ _ h12.1) fun ad h13 => ?_
  -- the `panic!("opt record does not contain opt data")` arm: the record found has type OPT, and
  -- `get_rdata` returns `RData::Opt` for that type
  refine Post.bind (P := fun _ => True) ?_ fun _ _ => trivial
  split
  · trivial
  · rename_i x hx
    have ht : x.rrtype = T_OPT := by
      have := List.find?_some hx
      simp only [Bool.and_eq_true, beq_iff_eq] at this; exact this.1
    obtain ⟨o, ho⟩ := h13.2 x (List.mem_of_find?_eq_some hx) ht
    rw [ho]; trivial

end

theorem getCookie_spec (data : Bytes) : Post (getCookie data) (fun _ => True) := by
  unfold getCookie
  refine Post.ite (fun h => ?_) fun _ => trivial
  exact Post.bind (post_slice (Nat.zero_le _) h) fun _ _ => trivial

theorem getEde_spec (data : Bytes) : Post (getEde data) (fun _ => True) := by
  unfold getEde
  refine Post.ite (fun h => ?_) fun _ => trivial
  have h : 2 ≤ data.length := h
  refine Post.bind (post_idx (by omega)) fun _ _ => ?_
  refine Post.bind (post_idx (by omega)) fun _ _ => ?_
  exact Post.bind (post_slice h (Nat.le_refl _)) fun _ _ => trivial

end Erbium.DnsSafe
