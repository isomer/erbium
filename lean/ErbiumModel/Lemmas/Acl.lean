import ErbiumModel.Model.Acl
/-! The netmask bit by bit: every fact about prefixes below is read off `netmask_testBit`. -/
namespace Erbium.Acl

theorem netmask_testBit (w len i : Nat) : (netmask w len).testBit i = (decide (w - len ≤ i) && decide (i < w)) := by
  unfold netmask
  by_cases hl : len < w
  · have hy : (2 ^ w - 1) / 2 ^ len < 2 ^ w := Nat.lt_of_le_of_lt (Nat.div_le_self _ _) (Nat.sub_one_lt (Nat.ne_of_gt (Nat.two_pow_pos w)))
    rw [if_pos hl, Nat.sub_sub, Nat.add_comm, Nat.testBit_two_pow_sub_succ hy, Nat.testBit_div_two_pow,
      Nat.testBit_two_pow_sub_one, Bool.eq_iff_iff]
    simp only [Bool.and_eq_true, decide_eq_true_eq, Bool.not_eq_true', decide_eq_false_iff_not]
    omega
  · rw [if_neg hl, Nat.sub_zero, Nat.testBit_two_pow_sub_one, show w - len = 0 by omega]
    simp

theorem and_netmask (w len x : Nat) (hx : x < 2 ^ w) : x &&& netmask w len = x / 2 ^ (w - len) * 2 ^ (w - len) := by
  apply Nat.eq_of_testBit_eq
  intro i
  rw [Nat.testBit_and, netmask_testBit, Nat.testBit_mul_two_pow, Nat.testBit_div_two_pow]
  by_cases hk : w - len ≤ i
  · rw [Nat.sub_add_cancel hk]
    by_cases hi : i < w
    · simp [hk, hi]
    · have : x.testBit i = false :=
        Nat.testBit_lt_two_pow (Nat.lt_of_lt_of_le hx (Nat.pow_le_pow_right (by decide) (Nat.le_of_not_lt hi)))
      simp [this]
  · simp [hk]

/-- **the written prefix, host bits ignored**: containment is equality of the top `len` bits -/
theorem containsW_iff (w addr len ip : Nat) (ha : addr < 2 ^ w) (hi : ip < 2 ^ w) :
    containsW w addr len ip = decide (ip / 2 ^ (w - len) = addr / 2 ^ (w - len)) := by
  unfold containsW
  rw [and_netmask w len ip hi, and_netmask w len addr ha, Bool.eq_iff_iff, beq_iff_eq, decide_eq_true_eq]
  exact ⟨Nat.eq_of_mul_eq_mul_right (Nat.two_pow_pos _), fun h => by rw [h]⟩

end Erbium.Acl
