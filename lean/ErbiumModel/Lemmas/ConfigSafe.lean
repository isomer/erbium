import ErbiumModel.Lemmas.Safe
import ErbiumModel.Model.ConfigSafe
/-! The scalar parsers of the configuration loader never panic, whatever YAML value or string they are
    given, and the arithmetic fed by an accepted prefix cannot overflow. -/
namespace Erbium.ConfigSafe
open Erbium.Safe Erbium.Generated.Pkt

/-- the two ways a typed parser answers: a value that satisfies `Q`, or "nothing" -/
theorem post_some {α : Type} {Q : α → Prop} {a : α} (h : Q a) : Post (pure (some a)) (fun r => ∀ v, r = some v → Q v) :=
  fun _ hv => Option.some.inj hv ▸ h
theorem post_none {α : Type} {Q : α → Prop} : Post (pure none) (fun r => ∀ v, r = some v → Q v) :=
  fun _ hv => nomatch hv

theorem typeToName_spec (y : Yaml) : Post (typeToName y) (fun _ => True) := by
  match y with
  | .real _ | .int _ | .str _ | .bool _ | .hash | .alias | .null | .bad => unfold typeToName; trivial
  | .arr [] => unfold typeToName; exact Post.ite_pos rfl trivial
  | .arr (x :: _) =>
    unfold typeToName
    exact Post.bind (typeToName_spec x) fun _ _ => trivial

theorem typeError_spec {α : Type} (y : Yaml) : Post (typeError y : Out α) (fun _ => True) := by
  unfold typeError
  exact Post.bind (typeToName_spec y) fun _ _ => Post.err

theorem parseI64_spec (y : Yaml) : Post (parseI64 y) (fun _ => True) := by
  unfold parseI64
  split
  · trivial
  · trivial
  · exact typeError_spec _

theorem parseNum_spec (lo hi : Int) (y : Yaml) : Post (parseNum lo hi y) (fun r => ∀ v, r = some v → lo ≤ v ∧ v ≤ hi) := by
  unfold parseNum
  refine Post.bind (parseI64_spec y) fun r _ => ?_
  split
  · exact post_none
  · exact Post.ite (fun h => post_some h) fun _ => Post.err

theorem parseString_spec (y : Yaml) : Post (parseString y) (fun _ => True) := by
  unfold parseString
  split
  · trivial
  · trivial
  · exact typeError_spec _

theorem parseBoolean_spec (y : Yaml) : Post (parseBoolean y) (fun _ => True) := by
  unfold parseBoolean
  split
  · trivial
  · trivial
  · exact typeError_spec _

theorem parseArray_spec {α : Type} (parser : Yaml → Out (Option α)) (hp : ∀ y, Post (parser y) (fun _ => True)) (y : Yaml) :
    Post (parseArray parser y) (fun _ => True) := by
  unfold parseArray
  split
  · trivial
  · exact Post.bind (Post.mapM _ fun a _ => hp a) fun _ _ => Post.ite (fun _ => trivial) fun _ => Post.err
  · exact typeError_spec _

theorem parseSearchDomain_spec (y : Yaml) : Post (parseSearchDomain y) (fun _ => True) := by
  unfold parseSearchDomain
  refine Post.bind (parseString_spec y) fun r _ => ?_
  split
  · exact Post.ite (fun _ => Post.err) fun _ => trivial
  · trivial

theorem digitStep_spec (num : Option Nat) (d : Nat) : Post (digitStep num d) (fun r => ∀ v, r = some v → v < U64) :=
  Post.ite_pos rfl (Post.ite (fun h => post_some h) fun _ => Post.err)

theorem addUnit_spec (ret : Nat) (num : Option Nat) (scale : Nat) : Post (addUnit ret num scale) (fun r => r < U64) := by
  unfold addUnit
  refine Post.ite_pos rfl ?_
  split
  · trivial
  · exact Post.ite (fun h => h.2) fun _ => Post.err

theorem strDurationLoop_spec (cs : List Char) (ret : Nat) (num : Option Nat) (hr : ret < U64) :
    Post (strDurationLoop cs ret num) (fun r => r < U64) := by
  induction cs generalizing ret num with
  | nil =>
    cases num with
    | none => exact hr
    | some n => exact addUnit_spec _ _ _
  | cons c cs ih =>
    unfold strDurationLoop
    refine Post.ite (fun _ => Post.bind (digitStep_spec num _) fun num' _ => ih ret num' hr) fun _ => ?_
    split
    · exact Post.bind (addUnit_spec ret num _) fun ret' hret' => ih ret' none hret'
    · exact Post.ite (fun _ => ih ret num hr) fun _ => Post.err

theorem parseDuration_spec (y : Yaml) : Post (parseDuration y) (fun r => ∀ v, r = some v → v < U64) := by
  unfold parseDuration
  split
  · rename_i i
    -- `*i as u64`
    refine post_some ?_
    have : (0:Int) ≤ i % ((2 ^ 64 : Nat) : Int) := Int.emod_nonneg _ (by decide)
    unfold U64
    omega
  · refine Post.bind (parseString_spec y) fun r _ => ?_
    split
    · exact post_none
    · exact Post.bind (strDurationLoop_spec _ 0 none (Nat.two_pow_pos 64)) fun _ hd => post_some hd

theorem hexdigit_spec (c : Nat) : Post (hexdigit c) (fun r => r < 16) := by
  -- a letter: `c - b'A' + 10` with `c - b'A' ≤ 5`
  have letter {s s' : String} {a : Nat} (h : a ≤ c ∧ c ≤ a + 5) :
      Post (subU s c a >>= fun x => fitU s' 8 (x + 10)) (fun r => r < 16) :=
    Post.bind (post_subU h.1) fun x hx => (post_fitU (by omega)).mono fun _ hr => by omega
  unfold hexdigit
  refine Post.ite_pos rfl ?_
  refine Post.ite letter fun _ => Post.ite letter fun _ => Post.ite (fun h => ?_) fun _ => Post.err
  exact (post_subU h.1).mono fun _ hx => by omega

theorem hexbyte_spec (s : List Nat) : Post (hexbyte s) (fun _ => True) := by
  unfold hexbyte
  split
  · exact Post.bind (hexdigit_spec _) fun _ _ => Post.bind (hexdigit_spec _) fun _ _ => trivial
  · trivial

theorem strHwaddr_spec (s : String) : Post (strHwaddr s) (fun _ => True) :=
  (Post.mapM _ fun _ _ => hexbyte_spec _).mono fun _ _ => trivial

theorem parseHwaddr_spec (y : Yaml) : Post (parseHwaddr y) (fun _ => True) := by
  unfold parseHwaddr
  refine Post.bind (parseString_spec y) fun r _ => ?_
  split
  · trivial
  · exact Post.bind (strHwaddr_spec _) fun _ _ => trivial

theorem strPrefix_spec (want : PrefixWant) (s : String) (ip : IpKind) :
    Post (strPrefix want s ip) (fun r => (r.1 = 4 ∧ r.2.2 ≤ 32) ∨ (r.1 = 6 ∧ r.2.2 ≤ 128)) := by
  unfold strPrefix
  refine Post.ite (fun _ => Post.err) fun h => ?_
  -- exactly two sections, so `sections[1]` and `sections[0]` exist
  have hl : (s.splitOn "/").length = 2 := by simpa [cfgSectionsChecked] using h
  rw [List.getElem?_eq_getElem (show 1 < (s.splitOn "/").length by omega),
    List.getElem?_eq_getElem (show 0 < (s.splitOn "/").length by omega)]
  simp only [unwrap, bind_ok]
  split
  · trivial
  · split
    · trivial
    · trivial
    · trivial
    · exact Post.ite (fun _ => Post.err) fun hlen => .inl ⟨rfl, by simpa [cfgPrefixLenChecked] using hlen⟩
    · exact Post.ite (fun _ => Post.err) fun hlen => .inr ⟨rfl, by simpa [cfgPrefixLenChecked] using hlen⟩

theorem hostOffsets_spec (minLen len : Nat) (hlen : len ≤ 32) (hmin : 1 ≤ minLen) :
    Post (hostOffsets minLen len) (fun r => ∀ offs, r = some offs → ∀ o ∈ offs, 1 ≤ o ∧ o < 2 ^ (32 - len) - 1) := by
  unfold hostOffsets
  refine Post.ite (fun _ => post_none) fun hm => ?_
  refine Post.bind (post_subU hlen) fun sh hsh => ?_
  -- `shlOne32` unfolds to an `if`; `len ≥ minLen ≥ 1` keeps the shift `32 - len` below 32
  refine Post.bind (Post.ite (P := fun v => v = 2 ^ sh) (fun _ => rfl) fun h => absurd (show sh < 32 by omega) h)
    fun size hsize => ?_
  refine Post.bind (post_subU (hsize ▸ Nat.one_le_two_pow)) fun hi hhi => post_some fun o hmem => ?_
  simp only [List.mem_filter, List.mem_range, decide_eq_true_eq] at hmem
  rw [hhi, hsize, hsh] at hmem
  exact ⟨hmem.2, hmem.1⟩

/-- an offset inside one block, added to an aligned address among `K` blocks of size `B`, stays among them -/
theorem add_lt_of_aligned {B K net o : Nat} (hal : net % B = 0) (hnet : net < B * K) (ho : o < B) : net + o < B * K := by
  have hd : B * (net / B) = net := Nat.mul_div_cancel' (Nat.dvd_of_mod_eq_zero hal)
  calc net + o < B * (net / B) + B := by omega
    _ = B * (net / B + 1) := (Nat.mul_succ ..).symm
    _ ≤ B * K := Nat.mul_le_mul_left _ (Nat.div_lt_of_lt_mul hnet)

/-- every host address of an accepted, network-aligned prefix fits in 32 bits -/
theorem hostAddrs_spec (minLen net len : Nat) (hlen : len ≤ 32) (hmin : 1 ≤ minLen)
    (hal : net % 2 ^ (32 - len) = 0) (hnet : net < 2 ^ 32) :
    Post (hostAddrs minLen net len) (fun _ => True) := by
  unfold hostAddrs
  refine Post.bind (hostOffsets_spec minLen len hlen hmin) fun r hr => ?_
  split
  · trivial
  · rename_i offs
    refine Post.bind (Post.mapM (Q := fun _ => True) _ fun o ho => ?_) fun _ _ => trivial
    -- 2^32 is 2^len blocks of the size of the prefix
    have hsplit : (2:Nat) ^ 32 = 2 ^ (32 - len) * 2 ^ len := by rw [← Nat.pow_add, Nat.sub_add_cancel hlen]
    have : net + o < 2 ^ 32 := hsplit ▸ add_lt_of_aligned hal (hsplit ▸ hnet) (by have := hr offs rfl o ho; omega)
    exact (post_fitU this).mono fun _ _ => trivial

end Erbium.ConfigSafe
