import ErbiumModel.Lemmas.Frame
import ErbiumModel.Lemmas.Digits
import ErbiumModel.Spec.FrameRfc
/-! The RFC reader `validFrame` accepts `frame u`: it cuts the frame where the three headers end (`frame_slices`), and each
    field it then reads is the one the builder wrote (`ethHeader_read`, `ipHeader_read`, `udpHeader_read`). Last,
    `frame_octets`: the frame consists of octets once the two MAC addresses do (`WfU` bounds only their lengths). -/
namespace Erbium.Frame
open Spec.FrameRfc
open DhcpWire (Octets octets_append octets_cons octets_nil)

/-- the four slices `validFrame` cuts out of a frame are the three headers and the payload -/
theorem frame_slices {u : Udp4} (h : WfU u) :
    (frame u).take 14 = ethHeader u ∧ ((frame u).drop 14).take 20 = ipHeader u ∧
    ((frame u).drop 34).take 8 = udpHeader u ∧ (frame u).drop 42 = u.payload := by
  have l1 := ethHeader_length h
  have l2 := ipHeader_length h
  have e : frame u = ethHeader u ++ (ipHeader u ++ (udpHeader u ++ u.payload)) := by
    simp only [frame, List.append_assoc]
  rw [e, show (34 : Nat) = 14 + 20 from rfl, show (42 : Nat) = 14 + 20 + 8 from rfl, ← List.drop_drop, ← List.drop_drop,
    ← List.drop_drop, List.drop_left' l1, List.drop_left' l2, List.drop_left' (udpHeader_length u),
    List.take_left' l1, List.take_left' l2, List.take_left' (udpHeader_length u)]
  exact ⟨rfl, rfl, rfl, rfl⟩

theorem getD_of_drop {l t : List Nat} {i a : Nat} (h : l.drop i = a :: t) : l.getD i 0 = a := by
  rw [List.getD_eq_getElem?_getD, ← List.head?_drop, h]; rfl

theorem g16_of_drop {l t : List Nat} {i a b : Nat} (h : l.drop i = a :: b :: t) : g16 l i = a * 256 + b := by
  have h' : l.drop (i + 1) = b :: t := by rw [← List.drop_drop, h]; rfl
  rw [g16, getD_of_drop h, getD_of_drop h']

theorem g16_be16 {l t : List Nat} {i x : Nat} (hx : x < 65536) (h : l.drop i = be16 x ++ t) : g16 l i = x := by
  rw [g16_of_drop h]; exact Digits.join16 hx

theorem ethHeader_read {u : Udp4} (h : WfU u) :
    (ethHeader u).take 6 = u.dmac ∧ ((ethHeader u).drop 6).take 6 = u.smac ∧ g16 (ethHeader u) 12 = 0x0800 := by
  have d6 : (ethHeader u).drop 6 = u.smac ++ [8, 0] := by rw [ethHeader, List.append_assoc, List.drop_left' h.dmac]
  refine ⟨?_, d6 ▸ List.take_left' h.smac, g16_of_drop (a := 8) (b := 0) (t := []) ?_⟩
  · rw [ethHeader, List.append_assoc, List.take_left' h.dmac]
  · rw [show (12 : Nat) = 6 + 6 from rfl, ← List.drop_drop, d6, List.drop_left' h.smac]

theorem ipHeader_read {u : Udp4} (h : WfU u) :
    (ipHeader u).getD 0 0 = 0x45 ∧ g16 (ipHeader u) 2 = 28 + u.payload.length ∧ (ipHeader u).getD 9 0 = 17 ∧
    ((ipHeader u).drop 12).take 4 = u.src ∧ ((ipHeader u).drop 16).take 4 = u.dst := by
  refine ⟨rfl, ipTotalLen_eq h ▸ g16_be16 (x := ipTotalLen u) (Nat.mod_lt _ (by decide)) rfl, rfl,
    List.take_left' h.src.1, ?_⟩
  show ((u.src ++ u.dst).drop 4).take 4 = u.dst
  rw [List.drop_left' h.src.1, List.take_of_length_le (Nat.le_of_eq h.dst.1)]

theorem udpHeader_read {u : Udp4} (h : WfU u) :
    g16 (udpHeader u) 0 = u.sport ∧ g16 (udpHeader u) 2 = u.dport ∧ g16 (udpHeader u) 4 = 8 + u.payload.length :=
  ⟨g16_be16 h.sport rfl, g16_be16 h.dport rfl, udpLen_eq h ▸ g16_be16 (x := udpLen u) (Nat.mod_lt _ (by decide)) rfl⟩

theorem frame_valid (u : Udp4) (h : WfU u) : validFrame u (frame u) = none := by
  obtain ⟨s1, s2, s3, s4⟩ := frame_slices h
  obtain ⟨a1, a2, a3⟩ := ethHeader_read h
  obtain ⟨i1, i2, i3, i4, i5⟩ := ipHeader_read h
  obtain ⟨u1, u2, u3⟩ := udpHeader_read h
  have hlen : ¬ (frame u).length < 42 := by
    simp only [frame, List.length_append, ethHeader_length h, ipHeader_length h, udpHeader_length]; omega
  have hip := ip_checksum_verifies u h
  -- the reader rebuilds the pseudo-header from the header's own length field: `pseudo u` up to unfolding
  have hudp : fold (sumWords (u.src ++ u.dst ++ [0, 17] ++ [(udpHeader u).getD 4 0, (udpHeader u).getD 5 0] ++
      udpHeader u ++ u.payload)) = 0xffff := udp_checksum_verifies u h
  simp only [validFrame, s1, s2, s3, s4, hlen, a1, a2, a3, i1, i2, i3, i4, i5, u1, u2, u3, hip, hudp,
    bne_self_eq_false, Bool.or_self, Bool.and_false, Bool.false_eq_true, ↓reduceIte]

theorem frame_octets (u : Udp4) (h : WfU u) (hsm : ∀ b ∈ u.smac, b < 256) (hdm : ∀ b ∈ u.dmac, b < 256) :
    ∀ b ∈ frame u, b < 256 := by
  show Octets (frame u)
  simp only [frame, ethHeader, ipHeader, udpHeader, octets_append, octets_cons, octets_nil, be16_octets,
    show Octets u.smac from hsm, show Octets u.dmac from hdm, show Octets u.src from h.src.2,
    show Octets u.dst from h.dst.2, show Octets u.payload from h.payload.2, Nat.reduceLT, and_self]

end Erbium.Frame
