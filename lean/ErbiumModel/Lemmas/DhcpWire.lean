import ErbiumModel.Model.DhcpWire
import ErbiumModel.Lemmas.Octets
import ErbiumModel.Lemmas.Digits
/-! The DHCP encoder against the decoder: `parse (serialise m) = .ok m` for well-formed `m` (C12a), and every element
    `serialise` writes is an octet. -/
namespace Erbium.DhcpWire

theorem optAppend_optAppend (m : Opts) (c : Nat) (a b : List Nat) :
    optAppend (optAppend m c a) c b = optAppend m c (a ++ b) := by
  induction m with
  | nil => simp [optAppend]
  | cons e es ih =>
    obtain ⟨k, v⟩ := e
    by_cases h : k = c
    · simp [optAppend, h]
    · simp [optAppend, h, ih]

theorem optAppend_fresh (m : Opts) (c : Nat) (v : List Nat) (h : c ∉ m.map (·.1)) :
    optAppend m c v = m ++ [(c, v)] := by
  induction m with
  | nil => simp [optAppend]
  | cons e es ih =>
    obtain ⟨k, w⟩ := e
    simp only [List.map_cons, List.mem_cons, not_or] at h
    have hk : ¬ k = c := fun hh => h.1 hh.symm
    simp [optAppend, hk, ih h.2]

theorem parseOptions_cons_opt (c l : Nat) (t : List Nat) (m : Opts) (h0 : c ≠ 0) (h255 : c ≠ 255)
    (hl : l ≤ t.length) :
    parseOptions (c :: l :: t) m = parseOptions (t.drop l) (optAppend m c (t.take l)) := by
  rw [parseOptions.eq_def]; simp [h0, h255, hl]

theorem parseOptions_pad (t : List Nat) (m : Opts) : parseOptions (0 :: t) m = parseOptions t m := by
  rw [parseOptions.eq_def]; simp

theorem parseOptions_end (t : List Nat) (m : Opts) : parseOptions (255 :: t) m = .ok m := by
  rw [parseOptions.eq_def]; simp

theorem parseOptions_serChunks (c : Nat) (h0 : c ≠ 0) (h255 : c ≠ 255) (v : List Nat) (hne : v ≠ [])
    (rest : List Nat) (m : Opts) :
    parseOptions (serChunks c v ++ rest) m = parseOptions rest (optAppend m c v) := by
  fun_induction serChunks c v generalizing m with
  | case1 v hle hem => exact absurd (List.isEmpty_iff.mp hem) hne  -- empty value
  | case2 v hle hem =>  -- one instance
    rw [List.cons_append, List.cons_append, parseOptions_cons_opt c _ _ m h0 h255 (by simp), List.drop_left,
      List.take_left]
  | case3 v hgt ih =>  -- 255 octets, then the rest
    have hl : (v.take 255).length = 255 := by rw [List.length_take]; omega
    have hd : v.drop 255 ≠ [] := fun hh => by
      have := congrArg List.length hh
      rw [List.length_drop, List.length_nil] at this; omega
    rw [List.append_assoc, List.cons_append, List.cons_append,
      parseOptions_cons_opt c 255 _ m h0 h255 (by rw [List.length_append, hl]; omega),
      List.drop_left' hl, List.take_left' hl, ih hd, optAppend_optAppend, List.take_append_drop]

theorem parseOptions_serOption (c : Nat) (v : List Nat) (h0 : c ≠ 0) (h255 : c ≠ 255)
    (rest : List Nat) (m : Opts) :
    parseOptions (serOption c v ++ rest) m = parseOptions rest (optAppend m c v) := by
  unfold serOption
  cases v with
  | nil =>
    simp only [List.isEmpty_nil, if_true, List.cons_append, List.nil_append]
    rw [parseOptions_cons_opt c 0 rest m h0 h255 (by simp)]
    simp
  | cons x xs =>
    simp only [List.isEmpty_cons, Bool.false_eq_true, if_false]
    exact parseOptions_serChunks c h0 h255 _ (by simp) rest m

/-- the option tables a `HashMap<u8, Vec<u8>>` filled by `parse_options` can be: codes distinct, none the pad (0) or the
    end marker (255) -/
def OptsWf (o : Opts) : Prop :=
  (o.map (·.1)).Nodup ∧ ∀ e ∈ o, e.1 ≠ 0 ∧ e.1 ≠ 255

theorem parseOptions_flatMap (o m : Opts) (hcodes : ∀ e ∈ o, e.1 ≠ 0 ∧ e.1 ≠ 255)
    (hnd : ((m ++ o).map (·.1)).Nodup) (tail : List Nat) :
    parseOptions ((o.flatMap fun (c, v) => serOption c v) ++ tail) m = parseOptions tail (m ++ o) := by
  induction o generalizing m with
  | nil => simp
  | cons e es ih =>
    obtain ⟨c, v⟩ := e
    have ⟨hc, hes⟩ := List.forall_mem_cons.1 hcodes
    rw [List.append_cons] at hnd ⊢
    have hfresh : c ∉ m.map (·.1) := fun hm => by
      rw [List.map_append, List.map_append] at hnd
      exact (List.nodup_append.1 (List.nodup_append.1 hnd).1).2.2 c hm c (List.mem_singleton.2 rfl) rfl
    rw [List.flatMap_cons, List.append_assoc, parseOptions_serOption c v hc.1 hc.2, optAppend_fresh m c v hfresh,
      ih _ hes hnd]

theorem parseOptions_serOptions (o : Opts) (h : OptsWf o) : parseOptions (serOptions o) [] = .ok o := by
  rw [serOptions, parseOptions_flatMap o [] h.2 h.1, parseOptions_end, List.nil_append]

/-- what holds of every message decoded from an octet string (`parse_wf`) and is enough for the encoder to write it back
    without loss (`parse_serialise`): every header field fits its width, `hlen` is the length of `chaddr`, `sname` and
    `file` hold no NUL -/
structure Wf (m : Dhcp) : Prop where
  op : m.op < 256
  htype : m.htype < 256
  hlen : m.hlen = m.chaddr.length
  chaddr : m.chaddr.length ≤ 16
  hops : m.hops < 256
  xid : m.xid < 2 ^ 32
  secs : m.secs < 65536
  flags : m.flags < 65536
  ciaddr : m.ciaddr < 2 ^ 32
  yiaddr : m.yiaddr < 2 ^ 32
  siaddr : m.siaddr < 2 ^ 32
  giaddr : m.giaddr < 2 ^ 32
  sname : m.sname.length ≤ 64 ∧ ∀ b ∈ m.sname, b ≠ 0
  file : m.file.length ≤ 128 ∧ ∀ b ∈ m.file, b ≠ 0
  options : OptsWf m.options

theorem be32_ser32 (x : Nat) (h : x < 2 ^ 32) :
    be32 (x / 16777216 % 256) (x / 65536 % 256) (x / 256 % 256) (x % 256) = x := Digits.join32 h

theorem be16_ser16 (x : Nat) (h : x < 65536) : be16 (x / 256 % 256) (x % 256) = x := Digits.join16 h

theorem serFixed_length (out : List Nat) (l : Nat) : (serFixed out l).length = l := by
  unfold serFixed; simp

theorem serFixed_eq (v : List Nat) (l : Nat) (h : v.length ≤ l) :
    serFixed v l = v ++ List.replicate (l - v.length) 0 := by
  rw [serFixed, List.take_append, List.take_of_length_le h, List.take_replicate, Nat.min_eq_left (Nat.sub_le ..)]

theorem nullTerminated_serFixed (v : List Nat) (l : Nat) (hl : v.length ≤ l) (h : ∀ b ∈ v, b ≠ 0) :
    nullTerminated (serFixed v l) = v := by
  rw [serFixed_eq v l hl, nullTerminated, List.takeWhile_append_of_pos fun b hb => bne_iff_ne.2 (h b hb),
    List.takeWhile_replicate]
  exact List.append_nil v

theorem take_serFixed (v : List Nat) (l : Nat) (hl : v.length ≤ l) :
    (serFixed v l).take v.length = v := by
  rw [serFixed_eq v l hl, List.take_left]

theorem parse_serialise (m : Dhcp) (h : Wf m) : parse (serialise m) = .ok m := by
  have hl : m.hlen ≤ 16 := h.hlen ▸ h.chaddr
  have nl : ∀ n k : Nat, ¬ n + k < n := fun n k => Nat.not_lt.2 (Nat.le_add_right n k)
  unfold serialise ser32 ser16
  simp only [List.cons_append, List.nil_append, Nat.mod_eq_of_lt h.op, Nat.mod_eq_of_lt h.htype,
    Nat.mod_eq_of_lt (Nat.lt_of_le_of_lt hl (by decide : 16 < 256)), Nat.mod_eq_of_lt h.hops, List.append_assoc]
  unfold parse
  -- the three fixed-width fields are cut off by their lengths alone; every length guard is `¬ n + k < n`
  simp only [List.take_left', List.drop_left', serFixed_length, List.length_append, nl, Nat.not_lt.2 hl, if_false]
  simp only [magic, List.cons_append, List.nil_append, ne_eq, not_true_eq_false, if_false,
    parseOptions_serOptions m.options h.options, be32_ser32 _ h.xid, be16_ser16 _ h.secs, be16_ser16 _ h.flags,
    be32_ser32 _ h.ciaddr, be32_ser32 _ h.yiaddr, be32_ser32 _ h.siaddr, be32_ser32 _ h.giaddr,
    nullTerminated_serFixed _ _ h.sname.1 h.sname.2, nullTerminated_serFixed _ _ h.file.1 h.file.2,
    show List.take m.hlen (serFixed m.chaddr 16) = m.chaddr from h.hlen ▸ take_serFixed _ _ h.chaddr]

theorem ser32_octets (x : Nat) : Octets (ser32 x) := octets_digits32 x

theorem ser16_octets (x : Nat) : Octets (ser16 x) := octets_digits16 x

theorem serFixed_octets (v : List Nat) (l : Nat) (hv : Octets v) : Octets (serFixed v l) :=
  Octets.take (octets_append.2 ⟨hv, octets_replicate_zero l⟩) l

theorem serChunks_octets (c : Nat) (hc : c < 256) (v : List Nat) (hv : Octets v) : Octets (serChunks c v) := by
  -- the length octet is `v.length ≤ 255` or the literal 255: this is where "nothing wraps" is decided
  fun_induction serChunks c v with
  | case1 v hle hem => exact octets_nil  -- empty value
  | case2 v hle hne => exact octets_cons.2 ⟨hc, octets_cons.2 ⟨by omega, hv⟩⟩  -- one instance
  | case3 v hgt ih =>  -- 255 octets, then the rest
    exact octets_cons.2 ⟨hc, octets_cons.2 ⟨by omega, octets_append.2 ⟨hv.take 255, ih (hv.drop 255)⟩⟩⟩

theorem serOption_octets (c : Nat) (hc : c < 256) (v : List Nat) (hv : Octets v) : Octets (serOption c v) := by
  unfold serOption
  split
  · exact octets_cons.2 ⟨hc, octets_cons.2 ⟨by omega, octets_nil⟩⟩
  · exact serChunks_octets c hc v hv

theorem serOptions_octets (o : Opts) (h : ∀ e ∈ o, e.1 < 256 ∧ Octets e.2) : Octets (serOptions o) := by
  refine octets_append.2 ⟨fun b hb => ?_, octets_cons.2 ⟨by omega, octets_nil⟩⟩
  obtain ⟨e, he, hbe⟩ := List.mem_flatMap.mp hb
  exact serOption_octets e.1 (h e he).1 e.2 (h e he).2 b hbe

theorem serialise_octets (m : Dhcp) (hch : Octets m.chaddr) (hsn : Octets m.sname) (hfi : Octets m.file)
    (hopt : ∀ e ∈ m.options, e.1 < 256 ∧ Octets e.2) : Octets (serialise m) := by
  simp only [serialise, magic, octets_append, octets_cons, octets_nil, ser32_octets, ser16_octets, serFixed_octets,
    serOptions_octets _ hopt, hch, hsn, hfi, and_true]
  omega

end Erbium.DhcpWire
