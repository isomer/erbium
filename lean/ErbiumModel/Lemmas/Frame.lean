import ErbiumModel.Model.Frame
import ErbiumModel.Lemmas.Octets
/-! The Internet checksum as `packet.rs` computes it: `fold` keeps the residue mod 65535, `sumWords` is additive over an
    even-length prefix, so writing the complemented sum into the zeroed checksum field makes the whole fold to 0xffff
    (`fold_add_finishNetsum`, `sumWords_fill`); from that the IPv4 header and UDP checksums of `frame u`. -/
namespace Erbium.Frame
open DhcpWire (Octets octets_append octets_cons octets_nil)

/-- `fold` is the end-around-carry reduction: it keeps the residue mod 65535 and lands in `1..0xffff` unless `s = 0`. -/
theorem fold_spec (s : Nat) (h : s < 2^32) :
    fold s ≤ 0xffff ∧ fold s % 65535 = s % 65535 ∧ (0 < s → 0 < fold s) := by
  -- 65536 ≡ 1 (mod 65535), so `fold1 s = s / 65536 + s % 65536` keeps the residue and is 0 only for `s = 0`;
  -- below 2^32 one step leaves at most 0x1fffe, and a second step then lands in range
  unfold fold fold1; simp only; split <;> (try split) <;> omega

/-- the bound `Model/Frame.lean` cites at `fold` -/
theorem fold_le (s : Nat) (h : s < 2^32) : fold s ≤ 0xffff := (fold_spec s h).1

/-- inserting the computed checksum makes the total fold to 0xffff, i.e. the receiver's check passes -/
theorem fold_add_finishNetsum (S : Nat) (h : S + 0xffff < 2^32) : fold (S + finishNetsum S) = 0xffff := by
  have h1 := fold_spec S (by omega)
  have h2 := fold_spec (S + finishNetsum S) (by unfold finishNetsum; omega)
  by_cases hz : S = 0
  · subst hz; rfl
  · unfold finishNetsum at *; omega

theorem finishNetsum_lt (S : Nat) : finishNetsum S < 65536 := by unfold finishNetsum; omega

theorem sumWords_append_even (xs ys : List Nat) (h : xs.length % 2 = 0) :
    sumWords (xs ++ ys) = sumWords xs + sumWords ys := by
  induction xs using sumWords.induct with
  | case1 => simp [sumWords]
  | case2 a => simp at h
  | case3 a b rest ih =>
    simp only [List.cons_append, sumWords]
    rw [ih (by simp at h; omega)]; omega

theorem sumWords_le (xs : List Nat) (h : Octets xs) : sumWords xs ≤ 65535 * ((xs.length + 1) / 2) := by
  induction xs using sumWords.induct with
  | case1 => simp [sumWords]
  | case2 a => have := h a (by simp); simp [sumWords]; omega
  | case3 a b rest ih =>
    have ⟨ha, hb, hr⟩ := octets_cons.1 h |>.imp_right octets_cons.1
    have := ih hr
    simp only [sumWords, List.length_cons]
    omega

theorem be16_length (x : Nat) : (be16 x).length = 2 := rfl

theorem sumWords_fill (P Q : List Nat) (c : Nat) (hP : P.length % 2 = 0) (hc : c < 65536) :
    sumWords (P ++ be16 c ++ Q) = sumWords (P ++ [0, 0] ++ Q) + c := by
  rw [List.append_assoc, List.append_assoc, sumWords_append_even P _ hP, sumWords_append_even P _ hP]
  simp only [be16, List.cons_append, List.nil_append, sumWords]
  omega

/-- the inputs `new_udp4` is meant for: IPv4 addresses of four octets, MAC addresses of six elements, 16-bit ports, a
    payload of octets that fits one datagram (65507 = 65535 - 20 - 8). The MAC *lengths* are bounded, their elements are
    not; that is why `frame_octets` asks for their octet-ness separately. -/
structure WfU (u : Udp4) : Prop where
  src : u.src.length = 4 ∧ ∀ b ∈ u.src, b < 256
  dst : u.dst.length = 4 ∧ ∀ b ∈ u.dst, b < 256
  smac : u.smac.length = 6
  dmac : u.dmac.length = 6
  sport : u.sport < 65536
  dport : u.dport < 65536
  payload : u.payload.length ≤ 65507 ∧ ∀ b ∈ u.payload, b < 256

theorem ethHeader_length {u : Udp4} (h : WfU u) : (ethHeader u).length = 14 := by
  simp [ethHeader, h.smac, h.dmac]

theorem ipHeader_length {u : Udp4} (h : WfU u) : (ipHeader u).length = 20 := by
  simp [ipHeader, be16_length, h.src.1, h.dst.1]

theorem udpHeader_length (u : Udp4) : (udpHeader u).length = 8 := rfl

theorem ipTotalLen_eq {u : Udp4} (h : WfU u) : ipTotalLen u = 28 + u.payload.length := by
  have := h.payload.1; unfold ipTotalLen; omega

theorem udpLen_eq {u : Udp4} (h : WfU u) : udpLen u = 8 + u.payload.length := by
  have := h.payload.1; unfold udpLen; omega

theorem be16_octets (x : Nat) : Octets (be16 x) := DhcpWire.octets_digits16 x

theorem ip_checksum_verifies (u : Udp4) (h : WfU u) : fold (sumWords (ipHeader u)) = 0xffff := by
  have hb : Octets (ipHeader0 u) := by
    simp only [ipHeader0, octets_append, octets_cons, octets_nil, be16_octets, show Octets u.src from h.src.2,
      show Octets u.dst from h.dst.2, Nat.reduceLT, and_self]
  have hl := sumWords_le _ hb
  have hlen : (ipHeader0 u).length = 20 := by simp [ipHeader0, be16_length, h.src.1, h.dst.1]
  have e : sumWords (ipHeader u) = sumWords (ipHeader0 u) + ipCsum u := by
    rw [ipHeader, ipHeader0, List.append_assoc _ u.src, List.append_assoc _ u.src]
    exact sumWords_fill _ _ _ (by simp [be16_length]) (finishNetsum_lt _)
  rw [e, ipCsum, partialNetsum, Nat.zero_add]
  exact fold_add_finishNetsum _ (by omega)

theorem udp_checksum_verifies (u : Udp4) (h : WfU u) :
    fold (sumWords (pseudo u ++ udpHeader u ++ u.payload)) = 0xffff := by
  have hp : Octets (pseudo u) := by
    simp only [pseudo, octets_append, octets_cons, octets_nil, be16_octets, show Octets u.src from h.src.2,
      show Octets u.dst from h.dst.2, Nat.reduceLT, and_self]
  have hh : Octets (udpHeader0 u) := by
    simp only [udpHeader0, octets_append, octets_cons, octets_nil, be16_octets, Nat.reduceLT, and_self]
  have lp : (pseudo u).length = 12 := by simp [pseudo, be16_length, h.src.1, h.dst.1]
  have b1 := sumWords_le _ hp
  have b2 := sumWords_le _ hh
  have b3 := sumWords_le _ h.payload.2
  have e : sumWords (pseudo u ++ udpHeader u ++ u.payload) =
      sumWords (pseudo u) + sumWords (udpHeader0 u) + sumWords u.payload + udpCsum u := by
    have := sumWords_fill (be16 u.sport ++ be16 u.dport ++ be16 (udpLen u)) [] (udpCsum u) (by simp [be16_length])
      (finishNetsum_lt _)
    rw [List.append_nil, List.append_nil] at this
    rw [List.append_assoc, sumWords_append_even _ _ (by rw [lp]),
      sumWords_append_even (udpHeader u) _ (by rw [udpHeader_length]), udpHeader, this, udpHeader0]
    omega
  have := h.payload.1
  rw [e, udpCsum, partialNetsum, partialNetsum, partialNetsum, Nat.zero_add]
  exact fold_add_finishNetsum _ (by rw [lp] at b1; rw [show (udpHeader0 u).length = 8 from rfl] at b2; omega)

end Erbium.Frame
