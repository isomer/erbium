import ErbiumModel.Lemmas.Cursor
import ErbiumModel.Model.Icmp6
/-! `icmppkt::parse` never panics and its option loop terminates within the packet length. -/
namespace Erbium.Icmp6
open Erbium.Safe Erbium.Cursor Erbium.Generated.Pkt

theorem trimLen_le (v : List Nat) : trimLen v ≤ v.length := by
  unfold trimLen
  calc (v.reverse.dropWhile (· == 0)).length ≤ v.reverse.length := (List.dropWhile_sublist _).length_le
    _ = v.length := List.length_reverse

/-- every option body of at least 6 octets (what `l * 8 - 2` with `l ≥ 1` guarantees) decodes without a panic -/
theorem parseOption_spec (ty : Nat) (value : List Nat) (h : 6 ≤ value.length) :
    Post (parseOption ty value) (fun _ => True) := by
  -- `value[a..b]` followed by `try_into().unwrap()` to `[u8; b - a]`
  have arr {α : Type} {s s' : String} {a b n : Nat} {f : List Nat → Out α} (hab : a ≤ b) (hb : b ≤ value.length)
      (hn : b - a = n) (hf : ∀ w, Post (f w) (fun _ => True)) :
      Post (slice s value a b >>= fun w => exactLen s' n w >>= f) (fun _ => True) :=
    Post.bind (post_slice hab hb) fun w hw => Post.bind (post_exactLen (hw.2.trans hn)) fun w' _ => hf w'
  unfold parseOption
  refine Post.ite (fun _ => trivial) fun _ =>                                      -- 1, source link-layer address
    Post.ite (fun _ => ?captive) fun _ =>                                          -- 37
    Post.ite (fun _ => Post.ite (fun _ => Post.err) fun hl => ?pref64) fun _ =>    -- 38
    Post.ite (fun _ => Post.ite (fun _ => Post.err) fun _ => ?mtu) fun _ =>        -- 5
    Post.ite (fun _ => ?rdnss) fun _ =>                                            -- 25
    Post.ite (fun _ => Post.ite (fun _ => Post.err) fun hl => ?prefixInfo) fun _ => trivial   -- 3; any other type is ignored
  case captive =>
    refine Post.bind (post_slice (Nat.zero_le _) (trimLen_le value)) fun s _ => ?_
    exact Post.ite (fun _ => trivial) fun _ => Post.err
  case pref64 =>
    have hl : value.length = 14 := by simpa [icmpPref64Len] using hl
    refine arr (by omega) (by omega) rfl fun w => ?_
    dsimp only
    split
    · trivial
    · refine Post.bind (post_slice (by omega) (Nat.le_refl _)) ?_
      rintro rest ⟨_, hr⟩
      exact Post.bind (post_exactLen (by rw [List.length_append, hr, hl]; rfl)) fun _ _ => trivial
  case mtu => exact arr (by omega) (by omega) rfl fun _ => trivial
  case rdnss =>
    refine arr (by omega) (by omega) rfl fun _ => ?_
    exact Post.bind (post_slice (by omega) (Nat.le_refl _)) fun _ _ => trivial
  case prefixInfo =>
    have hl : value.length = 30 := by simpa [icmpPrefixLen] using hl
    refine Post.bind (post_idx (by omega)) fun _ _ => ?_
    refine Post.bind (post_idx (by omega)) fun _ _ => ?_
    refine arr (by omega) (by omega) rfl fun _ => ?_
    refine arr (by omega) (by omega) rfl fun _ => ?_
    exact arr (by omega) (by omega) rfl fun _ => trivial

theorem parseOptions_spec (fuel : Nat) (b : Buf) (acc : List NdOpt) (hw : b.WF)
    (hf : b.data.length - b.off < fuel) : Post (parseOptions fuel b acc) (fun _ => True) := by
  induction fuel generalizing b acc with
  | zero => omega
  | succ fuel ih =>
    unfold parseOptions
    refine Post.bind (remaining_spec b hw) fun _ _ => Post.ite (fun _ => trivial) fun _ => ?_
    refine Post.bind (Post.orErr _ (getU8_spec b)) ?_
    rintro ⟨ty, b1⟩ ha1
    refine Post.bind (Post.orErr _ (getU8_spec b1)) ?_
    rintro ⟨l, b2⟩ ha2
    refine Post.ite (fun _ => Post.err) fun hz => ?_
    have hl : 1 ≤ l := by simp [icmpZeroLenRejected] at hz; omega
    -- the length of the option body
    refine Post.bind (post_subU (show 2 ≤ l * 8 by omega)) fun n hn => ?_
    refine Post.bind (Post.orErr _ (getBytes_spec b2 n)) ?_
    rintro ⟨value, b3⟩ ⟨ha3, hvl⟩
    have h6 : 6 ≤ value.length := by rw [hvl, hn]; show 6 ≤ l * 8 - 2; omega
    have ha := (ha1.trans ha2).trans ha3
    have hfuel := ha.fuel (by omega) hf
    refine Post.bind (parseOption_spec ty value h6) fun o _ => ?_
    split
    · exact ih b3 _ ha.wf hfuel
    · exact ih b3 _ ha.wf hfuel

theorem parse_spec (pkt : List Nat) : Post (parse pkt) (fun _ => True) := by
  unfold parse
  refine Post.ite (fun _ => Post.err) fun _ => ?_
  refine Post.bind (Post.orErr _ (getU8_spec _)) fun _ h1 => ?_
  refine Post.bind (Post.orErr _ (getU8_spec _)) fun _ h2 => ?_
  refine Post.bind (Post.orErr _ (getBe16_spec _)) fun _ h3 => ?_
  have a3 := (h1.trans h2).trans h3
  refine Post.ite (fun _ => ?_) fun _ => Post.ite (fun _ => ?_) fun _ => trivial
  · refine Post.bind (Post.orErr _ (getBe32_spec _)) fun _ h4 => ?_
    have a4 := a3.trans h4
    exact Post.bind (parseOptions_spec _ _ [] a4.wf a4.fuel_new) fun _ _ => trivial
  · refine Post.bind (Post.orErr _ (getU8_spec _)) fun _ h4 => ?_
    refine Post.bind (Post.orErr _ (getU8_spec _)) fun _ h5 => ?_
    refine Post.bind (Post.orErr _ (getBe16_spec _)) fun _ h6 => ?_
    refine Post.bind (Post.orErr _ (getBe32_spec _)) fun _ h7 => ?_
    refine Post.bind (Post.orErr _ (getBe32_spec _)) fun _ h8 => ?_
    have a8 := ((((a3.trans h4).trans h5).trans h6).trans h7).trans h8
    exact Post.bind (parseOptions_spec _ _ [] a8.wf a8.fuel_new) fun _ _ => trivial

end Erbium.Icmp6
