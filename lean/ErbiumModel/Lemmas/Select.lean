import ErbiumModel.Lemmas.Pool
/-! `select_address`: what each step, and hence every allowed outcome, guarantees about the store. The expiry tests are
    the ones regenerated from the SQL (`Generated.Pool`). -/
namespace Erbium.Pool
open Erbium.Generated.Pool (Cmp)

/-- `inUse` for the comparison `expiry > now`. The comparisons regenerated from the SQL (`requestedInUseCmp`,
    `newInUseCmp`, `ownCurrentCmp`) are `.gt`; they are unfolded where they enter (`step3_sound`, `step4_sound`,
    `mem_own1`), so a regenerated comparison that differs breaks those, not this lemma. -/
theorem inUse_iff {s : Store} {now x : Nat} :
    inUse .gt s now x = true ↔ ∃ r, rowOf s x = some r ∧ now < r.expiry := by
  unfold inUse
  cases rowOf s x <;> simp [Cmp.eval]

theorem mem_bests {req rs r} (h : r ∈ bests req rs) : r ∈ rs := by
  unfold bests at h; exact (List.mem_filter.mp h).1

theorem le2_total (a b : Nat × Nat) : le2 a b = true ∨ le2 b a = true := by
  simp only [le2, Bool.or_eq_true, decide_eq_true_eq, Bool.and_eq_true, beq_iff_eq]
  omega

theorem le2_refl (a : Nat × Nat) : le2 a a = true := (le2_total a a).elim id id

theorem le2_trans {a b c : Nat × Nat} (h1 : le2 a b = true) (h2 : le2 b c = true) : le2 a c = true := by
  simp only [le2, Bool.or_eq_true, decide_eq_true_eq, Bool.and_eq_true, beq_iff_eq] at *
  omega

theorem bests_ne_nil (req : Option Nat) (rs : List Row) (hne : rs ≠ []) : bests req rs ≠ [] := by
  have hmax : ∃ m ∈ rs, ∀ q ∈ rs, le2 (key req q) (key req m) = true := by
    induction rs with
    | nil => exact absurd rfl hne
    | cons a as ih =>
      by_cases has : as = []
      · subst has
        exact ⟨a, .head _, fun q hq => by cases List.mem_singleton.mp hq; exact le2_refl _⟩
      · -- the best of the tail, or the head if it beats that
        obtain ⟨m, hm, hall⟩ := ih has
        rcases le2_total (key req a) (key req m) with h | h
        · exact ⟨m, .tail _ hm, List.forall_mem_cons.mpr ⟨h, hall⟩⟩
        · exact ⟨a, .head _, List.forall_mem_cons.mpr ⟨le2_refl _, fun q hq => le2_trans (hall q hq) h⟩⟩
  obtain ⟨m, hm, hall⟩ := hmax
  exact List.ne_nil_of_mem (List.mem_filter.mpr ⟨hm, List.all_eq_true.mpr hall⟩)

theorem bests_req {req : Nat} {rs : List Row} {r : Row} (hr : r ∈ bests (some req) rs)
    (hq : ∃ q ∈ rs, q.addr = req) : r.addr = req := by
  obtain ⟨q, hq, hqa⟩ := hq
  unfold bests at hr
  have ⟨_, hall⟩ := List.mem_filter.mp hr
  have := (List.all_eq_true.mp hall) q hq
  unfold le2 key at this
  by_cases hra : r.addr = req
  · exact hra
  · simp [hqa, hra] at this

/-- step 1 candidates: the client's unexpired rows inside the pool -/
theorem mem_own1 {s : Store} {now : Nat} {c : Client} {pool : List Nat} {r : Row} :
    r ∈ (ownCurrent s now c).filter (fun r => pool.contains r.addr) ↔
      r ∈ s ∧ r.addr ∈ pool ∧ r.client = c ∧ now < r.expiry := by
  simp [ownCurrent, Generated.Pool.ownCurrentCmp, Cmp.eval]

theorem step1_sound {s : Store} {now c req pool} {o : Outcome} (h : o ∈ step1 s now c req pool) :
    ∃ r ∈ bests req ((ownCurrent s now c).filter (fun r => pool.contains r.addr)),
      o = .ok r.addr .reusing (dur1 now r) ∧ r ∈ s ∧ r.addr ∈ pool ∧ r.client = c ∧ now < r.expiry := by
  obtain ⟨r, hr, rfl⟩ := List.mem_map.mp h
  exact ⟨r, hr, rfl, mem_own1.mp (mem_bests hr)⟩

theorem step1_nonempty {s : Store} {now c pool r} (req : Option Nat) (hr : r ∈ s) (hc : r.client = c)
    (he : now < r.expiry) (hp : r.addr ∈ pool) : (step1 s now c req pool).isEmpty = false := by
  have hne := bests_ne_nil req _ (List.ne_nil_of_mem (mem_own1.mpr ⟨hr, hp, hc, he⟩))
  simpa [step1] using hne

theorem step2hit_sound {s : Store} {c req pool} {o : Outcome} (h : o ∈ step2hit s c req pool) :
    ∃ r ∈ s, o = .ok r.addr .revived (dur2 r) ∧ r.client = c ∧ r.addr ∈ pool := by
  obtain ⟨r, hr, rfl⟩ := List.mem_map.mp h
  have ⟨hb, hp⟩ := List.mem_filter.mp hr
  have ⟨hs, hc⟩ := List.mem_filter.mp (mem_bests hb)
  exact ⟨r, hs, rfl, by simpa using hc, by simpa using hp⟩

theorem step3_sound {s : Store} {now req pool} {o : Outcome} (h : o ∈ step3 s now req pool) :
    ∃ x, o = .ok x .requested 0 ∧ req = some x ∧ x ∈ pool ∧ inUse .gt s now x = false := by
  unfold step3 at h
  split at h
  · split at h
    · rename_i x hc
      rw [Bool.and_eq_true, Bool.not_eq_true', List.contains_iff_mem] at hc
      exact ⟨x, List.mem_singleton.mp h, rfl, hc⟩
    · cases h
  · cases h

theorem step4_sound {s : Store} {now pool} {o : Outcome} (h : o ∈ step4 s now pool) :
    (o = .noAddress ∧ ∀ x ∈ pool, inUse .gt s now x = true) ∨
    ∃ x ∈ pool, o = .ok x .newAddress 0 ∧ inUse .gt s now x = false := by
  simp only [step4] at h
  split at h
  · rename_i hfree
    refine .inl ⟨List.mem_singleton.mp h, fun x hx => ?_⟩
    have := List.filter_eq_nil_iff.mp (List.isEmpty_iff.mp hfree) x hx
    simpa [Generated.Pool.newInUseCmp] using this
  · obtain ⟨x, hx, rfl⟩ := List.mem_map.mp h
    have ⟨hp, hf⟩ := List.mem_filter.mp hx
    exact .inr ⟨x, hp, rfl, by simpa [Generated.Pool.newInUseCmp] using hf⟩

theorem allowed_cases {s : Store} {now c req pool} {o : Outcome} (h : o ∈ allowed s now c req pool) :
    o ∈ step1 s now c req pool ∨
    ((step1 s now c req pool).isEmpty = true ∧
      (o ∈ step2hit s c req pool ∨
       (step2fall s c req pool = true ∧
        (o ∈ step3 s now req pool ∨ ((step3 s now req pool).isEmpty = true ∧ o ∈ step4 s now pool))))) := by
  unfold allowed at h
  split at h
  · exact .inl h
  rename_i h1
  refine .inr ⟨by simpa using h1, ?_⟩
  split at h
  · exact .inl h
  rename_i h2
  split at h
  next => -- step 3 answers: `step2hit ++ step3`
    rcases List.mem_append.mp h with h | h
    · exact .inl h
    · exact .inr ⟨by simpa using h2, .inl h⟩
  next h3 => -- step 3 is empty: `step2hit ++ step4`
    rcases List.mem_append.mp h with h | h
    · exact .inl h
    · exact .inr ⟨by simpa using h2, .inr ⟨by simpa using h3, h⟩⟩

/-- `select_address` answers with an address of the pool that no other client holds. -/
theorem allowed_sound {s : Store} {now : Nat} {c : Client} {req pool x ty d}
    (hu : Uniq s) (h : Outcome.ok x ty d ∈ allowed s now c req pool) :
    x ∈ pool ∧ ∀ r, rowOf s x = some r → now < r.expiry → r.client = c := by
  have own {r : Row} (hr : r ∈ s) (hc : r.client = c) r' (hr' : rowOf s r.addr = some r') (_ : now < r'.expiry) :
      r'.client = c := by
    rw [hu r hr] at hr'; cases hr'; exact hc
  have free {y : Nat} (hf : inUse .gt s now y = false) r (hr : rowOf s y = some r) (he : now < r.expiry) :
      r.client = c := by
    rw [inUse_iff.mpr ⟨r, hr, he⟩] at hf; cases hf
  rcases allowed_cases h with h | ⟨_, h | ⟨_, h | ⟨_, h⟩⟩⟩
  · obtain ⟨r, _, ho, hr, hp, hc, _⟩ := step1_sound h
    cases ho; exact ⟨hp, own hr hc⟩
  · obtain ⟨r, hr, ho, hc, hp⟩ := step2hit_sound h
    cases ho; exact ⟨hp, own hr hc⟩
  · obtain ⟨y, ho, _, hp, hf⟩ := step3_sound h
    cases ho; exact ⟨hp, free hf⟩
  · obtain ⟨ho, _⟩ | ⟨y, hp, ho, hf⟩ := step4_sound h
    · cases ho
    · cases ho; exact ⟨hp, free hf⟩

/-- `select_address` refuses only after step 1 found nothing and with every address of the pool in use. -/
theorem allowed_noAddress {s : Store} {now : Nat} {c : Client} {req pool}
    (h : Outcome.noAddress ∈ allowed s now c req pool) :
    (step1 s now c req pool).isEmpty = true ∧ ∀ x ∈ pool, inUse .gt s now x = true := by
  rcases allowed_cases h with h | ⟨h1, h | ⟨_, h | ⟨_, h⟩⟩⟩
  · obtain ⟨_, _, h, _⟩ := step1_sound h; cases h
  · obtain ⟨_, _, h, _⟩ := step2hit_sound h; cases h
  · obtain ⟨_, h, _⟩ := step3_sound h; cases h
  · obtain ⟨_, hall⟩ | ⟨_, _, h, _⟩ := step4_sound h
    · exact ⟨h1, hall⟩
    · cases h

end Erbium.Pool
