import ErbiumModel.Model.Pool
import ErbiumModel.Lemmas.Keyed
/-! The lease table as a keyed list: lookup after `INSERT OR REPLACE`, no two different rows for one address, what a grant writes.
    Nothing here depends on the comparisons of `select_address` (`Generated.Pool`). -/
namespace Erbium.Pool

theorem rowOf_put (s : Store) (r : Row) (x : Nat) :
    rowOf (put s r) x = if x = r.addr then some r else rowOf s x :=
  find?_replace_key Row.addr r x s

theorem mem_put {s : Store} {r q : Row} : q ∈ put s r ↔ q = r ∨ (q ∈ s ∧ q.addr ≠ r.addr) := by
  simp [put, List.mem_filter]

theorem rowOf_grant (st : State) (c : Client) (x now' L : Nat) (opts : List Nat) (y : Nat) :
    rowOf (grant st c x now' L opts).rows y = if y = x then some (grantRow c x now' L opts) else rowOf st.rows y :=
  rowOf_put ..

/-- no two different rows for one address -/
def Uniq (s : Store) : Prop := ∀ r ∈ s, rowOf s r.addr = some r

theorem uniq_nil : Uniq [] := by intro r hr; cases hr

theorem uniq_put {s r} (h : Uniq s) : Uniq (put s r) := by
  intro q hq
  rw [rowOf_put]
  rcases mem_put.mp hq with rfl | ⟨hs, hne⟩
  · exact if_pos rfl
  · rw [if_neg hne]; exact h q hs

theorem rowOf_mem {s : Store} {x : Nat} {r : Row} (h : rowOf s x = some r) : r ∈ s ∧ r.addr = x :=
  find?_key_some Row.addr h

end Erbium.Pool
