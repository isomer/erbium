import ErbiumModel.Model.Safe
/-! The logic of `Out`: how `>>=` evaluates, `NoPanic`, and the Hoare-style judgement `Post x P` with one rule per
    construct the models are written in (`Post.bind`, `Post.ite`, …) and one per panicking primitive (`post_idx`,
    `post_slice`, …). The proofs of the development go through `Post`; the rules stated for `NoPanic` itself are there
    for direct use. -/
namespace Erbium.Safe

instance : LawfulMonad Out := LawfulMonad.mk'
  (id_map := by intro α x; cases x <;> rfl)
  (pure_bind := by intros; rfl)
  (bind_assoc := by intro α β γ x f g; cases x <;> rfl)

@[simp] theorem pure_eq {α : Type} (a : α) : (pure a : Out α) = Out.ok a := rfl
@[simp] theorem bind_ok {α β : Type} (a : α) (f : α → Out β) : (Out.ok a >>= f) = f a := rfl
@[simp] theorem bind_err {α β : Type} (e : String) (f : α → Out β) : (Out.err e >>= f) = .err e := rfl
@[simp] theorem bind_panic {α β : Type} (s : String) (f : α → Out β) : (Out.panic s >>= f) = .panic s := rfl

theorem bind_eq_ok {α β : Type} {x : Out α} {f : α → Out β} {b : β} (h : (x >>= f) = .ok b) :
    ∃ a, x = .ok a ∧ f a = .ok b := by
  cases x with
  | ok a => exact ⟨a, rfl, h⟩
  | err e => cases h
  | panic s => cases h

theorem orErr_ok {α : Type} {x : Out α} {e : String} {a : α} (h : x.orErr e = .ok a) : x = .ok a := by
  cases x <;> simp_all [Out.orErr]

theorem idx_ok {site : String} {l : List Nat} {i : Nat} (h : i < l.length) : idx site l i = .ok l[i] := by
  simp [idx, h]

theorem slice_ok {site : String} {l : List Nat} {a b : Nat} (h : a ≤ b) (h2 : b ≤ l.length) :
    slice site l a b = .ok ((l.take b).drop a) := by
  simp [slice, h, h2]

theorem slice_len {l : List Nat} {a b : Nat} (h : a ≤ b) (h2 : b ≤ l.length) : ((l.take b).drop a).length = b - a := by
  simp [List.length_drop, List.length_take]; omega

theorem subU_ok {site : String} {a b : Nat} (h : b ≤ a) : subU site a b = .ok (a - b) := by simp [subU, h]

@[simp] theorem noPanic_ok {α : Type} (a : α) : NoPanic (Out.ok a) := by intro s h; cases h
@[simp] theorem noPanic_err {α : Type} (e : String) : NoPanic (Out.err e : Out α) := by intro s h; cases h
@[simp] theorem not_noPanic_panic {α : Type} (s : String) : ¬ NoPanic (Out.panic s : Out α) := fun h => h s rfl

theorem noPanic_bind {α β : Type} {x : Out α} {f : α → Out β}
    (hx : NoPanic x) (hf : ∀ a, x = .ok a → NoPanic (f a)) : NoPanic (x >>= f) := by
  cases x with
  | ok a => exact hf a rfl
  | err e => intro s h; cases h
  | panic s => exact absurd hx (not_noPanic_panic s)

theorem noPanic_orErr {α : Type} {x : Out α} (e : String) (h : NoPanic x) : NoPanic (x.orErr e) := by
  cases x <;> simp_all [Out.orErr]

theorem idx_noPanic {site : String} {l : List Nat} {i : Nat} (h : i < l.length) : NoPanic (idx site l i) := by
  rw [idx_ok h]; exact noPanic_ok _

/-- partial-correctness + panic-freedom: the outcome is not a panic and a value satisfies `P` -/
def Post {α : Type} (x : Out α) (P : α → Prop) : Prop :=
  match x with
  | .ok a => P a
  | .err _ => True
  | .panic _ => False

@[simp] theorem Post.ok {α : Type} {a : α} {P : α → Prop} : Post (Out.ok a) P ↔ P a := Iff.rfl
@[simp] theorem Post.err {α : Type} {e : String} {P : α → Prop} : Post (Out.err e : Out α) P := trivial

theorem Post.noPanic {α : Type} {x : Out α} {P : α → Prop} (h : Post x P) : NoPanic x := by
  cases x with
  | ok a => exact noPanic_ok a
  | err e => exact noPanic_err e
  | panic s => exact h.elim

theorem Post.of_noPanic {α : Type} {x : Out α} (h : NoPanic x) : Post x (fun _ => True) := by
  cases x with
  | panic s => exact not_noPanic_panic s h
  | _ => trivial

theorem Post.of_eq_ok {α : Type} {x : Out α} {P : α → Prop} {a : α} (hx : Post x P) (h : x = .ok a) : P a := by
  rw [h] at hx; exact hx

theorem Post.mono {α : Type} {x : Out α} {P Q : α → Prop} (hx : Post x P) (h : ∀ a, P a → Q a) : Post x Q := by
  cases x with
  | ok a => exact h a hx
  | _ => exact hx

theorem Post.bind {α β : Type} {x : Out α} {f : α → Out β} {P : α → Prop} {Q : β → Prop}
    (hx : Post x P) (hf : ∀ a, P a → Post (f a) Q) : Post (x >>= f) Q := by
  cases x with
  | ok a => exact hf a hx
  | err e => trivial
  | panic s => exact hx.elim

/-- The rule for `if`. On a chain `if c₁ then x₁ else if c₂ then … else y` apply it once per arm and do not
    `split`: after each case distinction `split` simplifies the whole remaining chain again, visiting the `k`-th
    nested `if` 2^k times. -/
theorem Post.ite {α : Type} {c : Prop} [Decidable c] {x y : Out α} {P : α → Prop}
    (ht : c → Post x P) (he : ¬c → Post y P) : Post (if c then x else y) P := by
  by_cases h : c
  · rw [if_pos h]; exact ht h
  · rw [if_neg h]; exact he h

/-- the arm taken when the condition is known; with `rfl` where the condition is a guard extracted from the source
    (`Generated.Pkt`) that evaluates to `true` -/
theorem Post.ite_pos {α : Type} {c : Prop} [Decidable c] {x y : Out α} {P : α → Prop}
    (hc : c) (ht : Post x P) : Post (if c then x else y) P := by
  rw [if_pos hc]; exact ht

theorem Post.orErr {α : Type} {x : Out α} {P : α → Prop} (e : String) (hx : Post x P) : Post (x.orErr e) P := by
  cases x with
  | panic s => exact hx.elim
  | _ => exact hx

theorem Post.toOpt {α : Type} {x : Out α} {P : α → Prop} (hx : Post x P) :
    Post x.toOpt (fun o => ∀ a, o = some a → P a) := by
  cases x with
  | ok a => intro b hb; cases hb; exact hx
  | err e => intro b hb; cases hb
  | panic s => exact hx.elim

theorem Post.foldlM {α β : Type} {f : β → α → Out β} {I : β → Prop} (l : List α) (b : β) (hb : I b)
    (h : ∀ b a, a ∈ l → I b → Post (f b a) I) : Post (l.foldlM f b) I := by
  induction l generalizing b with
  | nil => exact hb
  | cons a as ih =>
    rw [List.foldlM_cons]
    exact Post.bind (h b a (List.mem_cons_self ..) hb) fun b' hb' =>
      ih b' hb' fun b a ha => h b a (List.mem_cons_of_mem _ ha)

theorem Post.mapM {α β : Type} {f : α → Out β} {Q : β → Prop} (l : List α) (h : ∀ a ∈ l, Post (f a) Q) :
    Post (l.mapM f) (fun bs => ∀ b ∈ bs, Q b) := by
  induction l with
  | nil => rw [List.mapM_nil]; intro b hb; cases hb
  | cons a as ih =>
    rw [List.mapM_cons]
    refine Post.bind (h a (List.mem_cons_self ..)) fun b hb => ?_
    refine Post.bind (ih fun x hx => h x (List.mem_cons_of_mem _ hx)) fun bs hbs => ?_
    intro y hy
    rcases List.mem_cons.mp hy with rfl | hy
    · exact hb
    · exact hbs y hy

theorem post_idx {site : String} {l : List Nat} {i : Nat} (h : i < l.length) : Post (idx site l i) (fun v => v = l[i]) := by
  rw [idx_ok h]; rfl

theorem post_slice {site : String} {l : List Nat} {a b : Nat} (h : a ≤ b) (h2 : b ≤ l.length) :
    Post (slice site l a b) (fun v => v = (l.take b).drop a ∧ v.length = b - a) := by
  rw [slice_ok h h2]; exact ⟨rfl, slice_len h h2⟩

theorem post_subU {site : String} {a b : Nat} (h : b ≤ a) : Post (subU site a b) (fun v => v = a - b) := by
  rw [subU_ok h]; rfl

theorem post_exactLen {site : String} {n : Nat} {v : List Nat} (h : v.length = n) : Post (exactLen site n v) (fun w => w = v) := by
  simp [exactLen, h]

theorem post_fitU {site : String} {bits v : Nat} (h : v < 2 ^ bits) : Post (fitU site bits v) (fun r => r = v) := by
  simp [fitU, h]

theorem post_shrU {site : String} {bits x n : Nat} (h : n < bits) : Post (shrU site bits x n) (fun r => r = x >>> n) := by
  simp [shrU, h]

end Erbium.Safe
