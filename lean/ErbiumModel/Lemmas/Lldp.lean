import ErbiumModel.Lemmas.Cursor
import ErbiumModel.Model.Lldp
/-! The LLDP decoder never panics on any frame and its TLV loop terminates within the frame length. -/
namespace Erbium.Lldp
open Erbium.Safe Erbium.Cursor Erbium.Generated.Pkt

theorem getRest_spec (b : Buf) (hw : b.WF) : Post (getRest b) (fun _ => True) := by
  unfold getRest
  exact Post.bind (remaining_spec b hw) fun r _ => (Post.orErr _ (getBytes_spec b r)).mono fun _ _ => trivial

theorem getText_spec (b : Buf) (hw : b.WF) : Post (getText b) (fun _ => True) := by
  unfold getText
  exact Post.bind (getRest_spec b hw) fun _ _ => Post.ite (fun _ => trivial) fun _ => Post.err

theorem parseId_spec (mk : Nat → List Nat → Tlv) (p : Buf) : Post (parseId mk p) (fun _ => True) := by
  unfold parseId
  refine Post.bind (Post.orErr _ (getU8_spec p)) fun _ h1 => Post.ite (fun _ => ?_) fun _ => Post.err
  exact Post.bind (getRest_spec _ h1.wf) fun _ _ => trivial

theorem parseTtl_spec (p : Buf) (hw : p.WF) : Post (parseTtl p) (fun _ => True) := by
  unfold parseTtl
  refine Post.bind (remaining_spec p hw) fun _ _ => Post.ite (fun _ => Post.err) fun _ => ?_
  exact Post.bind (Post.orErr _ (getBe16_spec p)) fun _ _ => trivial

theorem parseCaps_spec (p : Buf) (hw : p.WF) : Post (parseCaps p) (fun _ => True) := by
  unfold parseCaps
  refine Post.bind (remaining_spec p hw) fun _ _ => Post.ite (fun _ => Post.err) fun _ => ?_
  refine Post.bind (Post.orErr _ (getBe16_spec p)) fun _ _ => ?_
  exact Post.bind (Post.orErr _ (getBe16_spec _)) fun _ _ => trivial

/-- a zero length octet is reported, not subtracted from -/
theorem mgmtLen_spec (l0 : Nat) : Post (mgmtLen l0) (fun _ => True) :=
  Post.ite_pos rfl (Post.ite (fun _ => Post.err) fun _ => trivial)

theorem parseMgmt_spec (p : Buf) : Post (parseMgmt p) (fun _ => True) := by
  unfold parseMgmt
  refine Post.bind (Post.orErr _ (getU8_spec p)) fun _ _ => ?_
  refine Post.bind (mgmtLen_spec _) fun _ _ => ?_
  refine Post.bind (Post.orErr _ (getU8_spec _)) fun _ _ => ?_
  refine Post.ite (fun _ => Post.err) fun _ => ?_
  refine Post.bind (Post.orErr _ (getBytes_spec _ _)) fun _ _ => ?_
  refine Post.bind (Post.orErr _ (getU8_spec _)) fun _ _ => ?_
  refine Post.bind (Post.orErr _ (getBe32_spec _)) fun _ _ => ?_
  refine Post.bind (Post.orErr _ (getU8_spec _)) fun _ _ => ?_
  exact Post.bind (Post.orErr _ (getBytes_spec _ _)) fun _ _ => trivial

theorem parseOrg_spec (p : Buf) : Post (parseOrg p) (fun _ => True) := by
  unfold parseOrg
  refine Post.bind (Post.orErr _ (getBytes_spec p 3)) fun _ h1 => ?_
  refine Post.bind (Post.orErr _ (getU8_spec _)) fun _ h2 => ?_
  refine Post.bind (getRest_spec _ h2.wf) fun _ _ => ?_
  exact Post.bind (post_exactLen h1.2) fun _ _ => trivial

theorem parseUnknown_spec (ty : Nat) (p : Buf) (hw : p.WF) : Post (parseUnknown ty p) (fun _ => True) := by
  unfold parseUnknown
  exact Post.bind (getRest_spec p hw) fun _ _ => trivial

theorem parseBody_spec (ty : Nat) (p : Buf) (hw : p.WF) : Post (parseBody ty p) (fun _ => True) := by
  unfold parseBody
  refine Post.ite (fun _ => trivial) fun _ => ?_
  refine Post.ite (fun _ => parseId_spec _ p) fun _ => ?_
  refine Post.ite (fun _ => parseId_spec _ p) fun _ => ?_
  refine Post.ite (fun _ => parseTtl_spec p hw) fun _ => ?_
  refine Post.ite (fun _ => Post.bind (getText_spec p hw) fun _ _ => trivial) fun _ => ?_
  refine Post.ite (fun _ => Post.bind (getText_spec p hw) fun _ _ => trivial) fun _ => ?_
  refine Post.ite (fun _ => Post.bind (getText_spec p hw) fun _ _ => trivial) fun _ => ?_
  refine Post.ite (fun _ => parseCaps_spec p hw) fun _ => ?_
  refine Post.ite (fun _ => parseMgmt_spec p) fun _ => ?_
  exact Post.ite (fun _ => parseOrg_spec p) fun _ => parseUnknown_spec ty p hw

theorem parseTlv_spec (b : Buf) : Post (parseTlv b) (fun r => ∃ n, 2 ≤ n ∧ Adv b r.2 n) := by
  unfold parseTlv
  refine Post.bind (Post.orErr _ (getU8_spec b)) fun _ h1 => ?_
  refine Post.bind (Post.orErr _ (getU8_spec _)) fun _ h2 => ?_
  refine Post.bind (Post.orErr _ (getBuffer_spec _ _)) fun _ h3 => ?_
  refine Post.bind (parseBody_spec _ _ h3.2) fun _ _ => ?_
  exact ⟨_, by omega, (h1.trans h2).trans h3.1⟩

theorem parsePdu_spec (fuel : Nat) (b : Buf) (acc : List Tlv) (hw : b.WF)
    (hf : b.data.length - b.off < fuel) : Post (parsePdu fuel b acc) (fun _ => True) := by
  induction fuel generalizing b acc with
  | zero => omega
  | succ fuel ih =>
    unfold parsePdu
    refine Post.bind (remaining_spec b hw) fun _ _ => Post.ite (fun _ => Post.err) fun _ => ?_
    refine Post.bind (parseTlv_spec b) ?_
    rintro ⟨t, b1⟩ ⟨n, hn, ha⟩
    refine Post.bind (post_subU (Nat.le_add_left ..)) fun _ _ => Post.ite (fun _ => trivial) fun _ => ?_
    exact ih b1 _ ha.wf (ha.fuel (by omega) hf)

theorem decodeFrame_spec (frame : List Nat) : Post (decodeFrame frame) (fun _ => True) := by
  unfold decodeFrame
  refine Post.bind (P := fun _ => True) ?_ fun pdu _ => parsePdu_spec _ _ [] (new_wf pdu) (Nat.lt_succ_self _)
  exact Post.ite_pos rfl (Post.ite (fun _ => Post.err) fun _ => trivial)

end Erbium.Lldp
