/-! `Octets l` unfolds to `∀ b ∈ l, b < 256`, the form `WfU` and the frame theorems spell out: `show` crosses between the
    two, and as an atom the predicate rewrites under `simp` where the spelt-out form does not. -/
namespace Erbium.DhcpWire

def Octets (l : List Nat) : Prop := ∀ b ∈ l, b < 256

theorem octets_nil : Octets [] := fun _ h => nomatch h

theorem octets_cons {x : Nat} {l : List Nat} : Octets (x :: l) ↔ x < 256 ∧ Octets l := List.forall_mem_cons

theorem octets_append {a b : List Nat} : Octets (a ++ b) ↔ Octets a ∧ Octets b := List.forall_mem_append

theorem Octets.sublist {a b : List Nat} (hb : Octets b) (h : a.Sublist b) : Octets a :=
  fun x hx => hb x (h.subset hx)

theorem Octets.take {a : List Nat} (ha : Octets a) (n : Nat) : Octets (a.take n) := ha.sublist (List.take_sublist ..)

theorem Octets.drop {a : List Nat} (ha : Octets a) (n : Nat) : Octets (a.drop n) := ha.sublist (List.drop_sublist ..)

theorem Octets.getD {l : List Nat} (h : Octets l) (i : Nat) : l.getD i 0 < 256 := by
  rw [List.getD_eq_getElem?_getD]
  cases e : l[i]? with
  | none => decide
  | some b => exact h b (List.mem_of_getElem? e)

theorem octets_replicate_zero (n : Nat) : Octets (List.replicate n 0) :=
  fun _ hb => by cases List.eq_of_mem_replicate hb; decide

theorem octets_digits16 (x : Nat) : Octets [x / 256 % 256, x % 256] :=
  octets_cons.2 ⟨Nat.mod_lt _ (by decide), octets_cons.2 ⟨Nat.mod_lt _ (by decide), octets_nil⟩⟩

theorem octets_digits32 (x : Nat) : Octets [x / 16777216 % 256, x / 65536 % 256, x / 256 % 256, x % 256] :=
  octets_cons.2 ⟨Nat.mod_lt _ (by decide), octets_cons.2 ⟨Nat.mod_lt _ (by decide), octets_digits16 x⟩⟩

end Erbium.DhcpWire
