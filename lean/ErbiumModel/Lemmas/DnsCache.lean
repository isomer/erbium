import ErbiumModel.Model.DnsCache
import ErbiumModel.Lemmas.Keyed
/-! The DNS cache as a state machine: the invariant of every state reachable from an empty cache, and what a lookup
    returns in such a state. -/
namespace Erbium.DnsCache

theorem getExpiry_le (r : Reply) : ∀ t ∈ allTtls r, getExpiry r ≤ t := by
  unfold getExpiry
  cases allTtls r with
  | nil => nofun
  | cons a as => exact (List.le_min?_iff (xs := a :: as) rfl).mp (Nat.le_refl _)

theorem decAll_ok (d : Nat) (l : List Nat) (h : ∀ t ∈ l, d ≤ t) : decAll d l = some (l.map (· - d)) := by
  induction l with
  | nil => rfl
  | cons a as ih =>
    have ha := h a (by simp)
    have := ih (fun t ht => h t (by simp [ht]))
    unfold decAll at *
    simp [List.mapM_cons, decTtl, ha, this]

theorem clone_ok (r : Reply) (d : Nat) (h : d ≤ getExpiry r) :
    cloneWithTtlDecrement r d =
      some { answer := r.answer.map (· - d), authority := r.authority.map (· - d), additional := r.additional.map (· - d) } := by
  have hall : ∀ t ∈ allTtls r, d ≤ t := fun t ht => Nat.le_trans h (getExpiry_le r t ht)
  simp only [allTtls, List.forall_mem_append] at hall
  simp [cloneWithTtlDecrement, decAll_ok d _ hall.1.1, decAll_ok d _ hall.1.2, decAll_ok d _ hall.2]

/-- each entry lives for the smallest TTL of its reply and was born in the past -/
def Inv (s : State) : Prop :=
  ∀ e ∈ s.cache, e.lifetime = getExpiry e.reply * ns ∧ e.birth ≤ s.now

theorem inv_step (s : State) (op : Op) (h : Inv s) : Inv (step s op) := by
  cases op with
  | resolve k r =>
    intro e he
    simp only [step, resolve] at he
    split at he
    · rcases List.mem_cons.mp he with rfl | he
      · exact ⟨rfl, Nat.le_refl _⟩
      · exact h e (List.mem_filter.mp he).1
    · exact h e he
  | expire => exact fun e he => h e (List.mem_filter.mp he).1
  | tick n => exact fun e he => ⟨(h e he).1, Nat.le_trans (h e he).2 (Nat.le_add_right _ _)⟩

theorem inv_runOps (ops : List Op) (t0 : Nat) : Inv (runOps { cache := [], now := t0 } ops) :=
  List.foldlRecOn ops step (motive := Inv) nofun fun s h op _ => inv_step s op h

theorem lookup_inv (s : State) (hinv : Inv s) (k : Key) :
    lookup s.cache k s.now = .miss ∨
    ∃ e ∈ s.cache, e.key = k ∧ s.now - e.birth ≤ getExpiry e.reply * ns ∧ (s.now - e.birth) / ns ≤ getExpiry e.reply ∧
      lookup s.cache k s.now = .hit { answer := e.reply.answer.map (· - (s.now - e.birth) / ns),
                                      authority := e.reply.authority.map (· - (s.now - e.birth) / ns),
                                      additional := e.reply.additional.map (· - (s.now - e.birth) / ns) } := by
  unfold lookup
  cases hf : find s.cache k with
  | none => exact .inl rfl
  | some e =>
    obtain ⟨hmem, hkey⟩ := find?_key_some Entry.key hf
    obtain ⟨hlife, hbirth⟩ := hinv e hmem
    simp only
    split
    · have hage : s.now - e.birth ≤ getExpiry e.reply * ns := by omega
      have hsec : (s.now - e.birth) / ns ≤ getExpiry e.reply := Nat.div_le_of_le_mul (Nat.mul_comm _ _ ▸ hage)
      exact .inr ⟨e, hmem, hkey, hage, hsec, by rw [clone_ok _ _ hsec]⟩
    · exact .inl rfl

end Erbium.DnsCache
