/-! Partial correctness of a computation in `Except`: `Yields x P`, with one rule per construct the decoders are written
    in, so that a decoder is walked once from top to bottom, as its panic-aware twin is under `Safe.Post`. For a decoder
    that is a chain of guards and not of binds, `ite_error_eq_ok` turns the guards into a conjunction. -/
namespace Erbium

/-- whatever `x` returns satisfies `P`; a failure asks nothing -/
def Yields {ε α : Type} (x : Except ε α) (P : α → Prop) : Prop := ∀ a, x = .ok a → P a

namespace Yields
variable {ε α β : Type} {P : α → Prop}

theorem ok {a : α} (h : P a) : Yields (.ok a : Except ε α) P := fun _ e => Except.ok.inj e ▸ h

theorem error {e : ε} : Yields (.error e : Except ε α) P := fun _ h => nomatch h

theorem mono {x : Except ε α} {Q : α → Prop} (hx : Yields x P) (h : ∀ a, P a → Q a) : Yields x Q :=
  fun a e => h a (hx a e)

theorem bind {x : Except ε α} {f : α → Except ε β} {Q : β → Prop} (hx : Yields x P) (hf : ∀ a, P a → Yields (f a) Q) :
    Yields (x >>= f) Q := by
  cases x with
  | error e => exact error
  | ok a => exact hf a (hx a rfl)

theorem ite {c : Prop} [Decidable c] {x y : Except ε α} (ht : c → Yields x P) (he : ¬c → Yields y P) :
    Yields (if c then x else y) P := by
  by_cases h : c
  · rw [if_pos h]; exact ht h
  · rw [if_neg h]; exact he h

end Yields

theorem ite_error_eq_ok {ε α : Type} {c : Prop} [Decidable c] {e : ε} {x : Except ε α} {a : α} :
    ((if c then .error e else x) = .ok a) ↔ ¬ c ∧ x = .ok a := by
  by_cases h : c
  · rw [if_pos h]; exact ⟨fun h' => (nomatch h'), fun h' => absurd h h'.1⟩
  · rw [if_neg h]; exact ⟨fun h' => ⟨h, h'⟩, fun h' => h'.2⟩

end Erbium
