import ErbiumModel.Lemmas.RaFields
/-! The router-advertisement serialiser (model of `icmppkt::serialise`) against the decoder written from the RFCs
    (`Spec/RaRfc.lean`), behind C17's general statement. `Framed o`: what `serOpt o` writes is read by `decodeOpt` as
    `specOpt o`; per option type, one lemma about the decoder on the RFC's layout over plain field values
    (`decodeOpt_*`) and its use (`framed_*`). Then the lengths — multiples of eight whichever narrowing sites are
    checked (`serOpt_length`), true length octets given the checked ones (`*_never_wraps`) — and the walk over all
    options with the header (`decode_serialise`). -/
namespace Erbium.RaCodec
open Erbium.Radv Erbium.RaRfc

/-- what the RFC decoder is expected to read for one option of the advertisement (`none`: nothing is sent) -/
def specOpt : NdOpt → Option Opt
  | .sourceLL mac => some (.sourceLL mac)
  | .mtu m => some (.mtu m)
  | .prefixInfo p => some (.prefixInfo p.len p.onlink p.autonomous (min p.valid 0xffffffff) (min p.preferred 0xffffffff)
      (maskPrefix p.addr p.len))
  | .rdnss lt servers => if servers.isEmpty then none else some (.rdnss (min lt 0xffffffff) servers)
  | .dnssl lt domains => if domains.isEmpty then none else some (.dnssl (min lt 0xffffffff) (domains.map RaRfc.splitDots))
  | .pref64 lt len pfx => (plc len).map fun _ => .pref64 (min (lt / 8) 8191 * 8) len (maskPrefix pfx len)
  | .captivePortal url => some (.captivePortal url)

/-- an option as it leaves the serialiser: nothing, or type, length in units of eight and a body that fills them and
    that the RFC decoder reads as `v` -/
def Framed (o : NdOpt) : Prop :=
  match specOpt o with
  | none => serOpt o = []
  | some v => ∃ ty l body, serOpt o = ty :: l :: body ∧ l ≠ 0 ∧ body.length = l * 8 - 2 ∧ decodeOpt ty body = some v

theorem framed_some {o : NdOpt} {v : Opt} {ty l : Nat} {body : Bytes} (hs : specOpt o = some v)
    (hser : serOpt o = ty :: l :: body) (hl : body.length + 2 = l * 8) (hd : decodeOpt ty body = some v) :
    Framed o := by
  unfold Framed; rw [hs]; exact ⟨ty, l, body, hser, by omega, by omega, hd⟩

theorem framed_none {o : NdOpt} (hs : specOpt o = none) (hser : serOpt o = []) : Framed o := by
  unfold Framed; rw [hs]; exact hser

theorem framed_sourceLL (mac : Bytes) (h : mac.length = 6) : Framed (.sourceLL mac) :=
  framed_some (ty := 1) (l := 1) (body := mac) rfl (by rw [serOpt, h]; rfl) (by rw [h]) rfl

/-- RFC 4861 §4.6.4 read back -/
theorem decodeOpt_mtu {m : Nat} (h : m < 4294967296) : decodeOpt 5 ([0, 0] ++ u32 m) = some (.mtu m) := by
  have e : be (([0, 0] ++ u32 m).drop 2) = m := be_u32 m h
  simp only [decodeOpt, e]
  rfl

theorem framed_mtu (m : Nat) (h : m < 4294967296) : Framed (.mtu m) :=
  framed_some (ty := 5) (l := 1) rfl rfl rfl (decodeOpt_mtu h)

/-- RFC 4861 §4.6.2 read back -/
theorem decodeOpt_prefixInfo {l f v p m : Nat} (hl : l ≤ 128) (hf : f % 64 = 0) (hv : v < 4294967296)
    (hp : p < 4294967296) (hm : m < 2 ^ 128) (hmod : m % 2 ^ (128 - l) = 0) :
    decodeOpt 3 ([l, f] ++ u32 v ++ u32 p ++ [0, 0, 0, 0] ++ u128 m) =
      some (.prefixInfo l (f / 128 % 2 = 1) (f / 64 % 2 = 1) v p m) := by
  generalize hb : [l, f] ++ u32 v ++ u32 p ++ [0, 0, 0, 0] ++ u128 m = body
  -- every field sits at a fixed offset of a list of thirty known cells
  have e0 : body.length = 30 := hb ▸ rfl
  have e1 : (body.drop 14).take 16 = u128 m := hb ▸ rfl
  have e2 : (body.drop 2).take 4 = u32 v := hb ▸ rfl
  have e3 : (body.drop 6).take 4 = u32 p := hb ▸ rfl
  have e4 : (body.drop 10).take 4 = [0, 0, 0, 0] := hb ▸ rfl
  have e5 : body.getD 0 0 = l := hb ▸ rfl
  have e6 : body.getD 1 0 = f := hb ▸ rfl
  have c : ¬ (l > 128 ∨ f % 64 ≠ 0 ∨ [0, 0, 0, 0] ≠ [0, 0, 0, 0] ∨ m % 2 ^ (128 - l) ≠ 0) := by
    simp only [hf, hmod, ne_eq, not_true_eq_false, or_false]; omega
  simp only [decodeOpt, e0, e1, e2, e3, e4, e5, e6, be_u32 v hv, be_u32 p hp, be_u128 m hm]
  rw [if_neg c]
  rfl

theorem framed_prefixInfo (p : Prefix) (hlen : p.len ≤ 128) (haddr : p.addr < 2 ^ 128) : Framed (.prefixInfo p) := by
  obtain ⟨f0, f1, f2⟩ := flags_decode p.onlink p.autonomous
  refine framed_some (ty := 3) (l := 4) rfl rfl rfl ?_
  show decodeOpt 3 ([p.len % 256, _] ++ u32 _ ++ u32 _ ++ [0, 0, 0, 0] ++ u128 _) = _
  rw [Nat.mod_eq_of_lt (by omega : p.len < 256), decodeOpt_prefixInfo hlen f0 (clamp_lt (by decide)) (clamp_lt (by decide))
    (maskPrefix_lt _ _ haddr) (maskPrefix_low_bits hlen (Nat.le_refl _)), f1, f2]
  rfl

/-- RFC 8106 §5.1 read back -/
theorem decodeOpt_rdnss {lt : Nat} (hlt : lt < 4294967296) {servers : List Nat} (hne : servers ≠ [])
    (hs : ∀ s ∈ servers, s < 2 ^ 128) :
    decodeOpt 25 ([0, 0] ++ u32 lt ++ servers.flatMap u128) = some (.rdnss lt servers) := by
  have hpos : 0 < servers.length := List.length_pos_iff.mpr hne
  have e0 : ([0, 0] ++ u32 lt ++ servers.flatMap u128).length = 6 + 16 * servers.length := by
    simp only [u32, List.length_append, List.length_cons, List.length_nil, flatMap_u128_length]
  have c : ¬ (6 + 16 * servers.length < 22 ∨ (6 + 16 * servers.length - 6) % 16 ≠ 0 ∨
      ([0, 0] ++ u32 lt ++ servers.flatMap u128).take 2 ≠ [0, 0]) :=
    fun h => h.elim (by omega) fun h => h.elim (by omega) (· rfl)
  have e1 : (([0, 0] ++ u32 lt ++ servers.flatMap u128).drop 2).take 4 = u32 lt := rfl
  have e2 : (6 + 16 * servers.length - 6) / 16 = servers.length := by omega
  have e3 := chunks_u128 servers ([0, 0] ++ u32 lt) hs
  rw [show ([0, 0] ++ u32 lt : Bytes).length = 6 from rfl] at e3
  simp only [decodeOpt, e0, if_neg c, e1, e2, e3, be_u32 lt hlt]
  rfl

/-- 127 is `Generated.Ra.rdnssChunk` -/
theorem serOpt_rdnss_chunks (lt : Nat) (servers : List Nat) :
    serOpt (.rdnss lt servers) = (chunks 127 servers.length servers).flatMap (rdnssOpt lt) := by
  cases servers <;> rfl

theorem serOpt_rdnss (lt : Nat) (servers : List Nat) (h0 : 0 < servers.length) (hn : servers.length ≤ 127) :
    serOpt (.rdnss lt servers) = rdnssOpt lt servers := by
  rw [serOpt_rdnss_chunks, chunks_single 127 servers h0 hn, List.flatMap_cons, List.flatMap_nil, List.append_nil]

theorem framed_rdnss (lt : Nat) (servers : List Nat) (hn : servers.length ≤ 127) (hs : ∀ s ∈ servers, s < 2 ^ 128) :
    Framed (.rdnss lt servers) := by
  cases servers with
  | nil => exact framed_none rfl rfl
  | cons a as =>
    refine framed_some (ty := 25) (l := 1 + (a :: as).length * 2) (v := .rdnss (min lt 0xffffffff) (a :: as)) rfl
      (by rw [serOpt_rdnss lt (a :: as) (Nat.succ_pos _) hn, rdnssOpt, Nat.mod_eq_of_lt (by omega)]; rfl) ?_
      (decodeOpt_rdnss (clamp_lt (by decide)) (List.cons_ne_nil _ _) hs)
    simp only [u32, List.length_append, List.length_cons, List.length_nil, flatMap_u128_length]; omega

/-- RFC 8781 §4 read back: scaled lifetime `s` with length code `c`, and the 96 leading bits of `m` -/
theorem decodeOpt_pref64 {s c len m : Nat} (hs : s ≤ 8191) (hc : plcLen c = some len) (hc8 : c < 8) (hm : m < 2 ^ 128)
    (hlow : m % 2 ^ 32 = 0) (hmod : m % 2 ^ (128 - len) = 0) :
    decodeOpt 38 (u16 (s * 8 + c) ++ (u128 m).take 12) = some (.pref64 (s * 8) len m) := by
  have e0 : (u16 (s * 8 + c) ++ (u128 m).take 12).length = 14 := rfl
  have e1 : (u16 (s * 8 + c) ++ (u128 m).take 12).take 2 = u16 (s * 8 + c) := rfl
  have e2 : (u16 (s * 8 + c) ++ (u128 m).take 12).drop 2 = (u128 m).take 12 := rfl
  have e3 : be ((u128 m).take 12) * 2 ^ 32 = m := by
    rw [u128_digits, digits_take 12 m 4, be_digits_lt (Nat.div_lt_of_lt_mul hm)]
    exact Nat.div_mul_cancel (Nat.dvd_of_mod_eq_zero hlow)
  simp only [decodeOpt, e0, e1, e2, e3, be_u16 _ (by omega : s * 8 + c < 65536), show (s * 8 + c) % 8 = c by omega, hc, hmod,
    show (s * 8 + c) / 8 * 8 = s * 8 by omega]
  rfl

theorem framed_pref64 (lt len pfx : Nat) (hp : pfx < 2 ^ 128) : Framed (.pref64 lt len pfx) := by
  cases hc : plc len with
  | none => exact framed_none (by simp only [specOpt, hc, Option.map_none]) (by simp only [serOpt, hc])
  | some c =>
    obtain ⟨hplc, hc8⟩ := plc_some hc
    obtain ⟨h32, h96⟩ := plc_bounds hc
    exact framed_some (ty := 38) (l := 2) (by simp only [specOpt, hc, Option.map_some]; rfl) (by simp only [serOpt, hc]; rfl) rfl
      (decodeOpt_pref64 (Nat.min_le_right ..) hplc hc8 (maskPrefix_lt _ _ hp) (maskPrefix_low_bits (by omega) (by omega))
        (maskPrefix_low_bits (by omega) (Nat.le_refl _)))

/-- given the checked narrowing (`Generated.Ra.captiveLengthChecked`): left out, or the true length without `% 256` -/
theorem serOpt_captivePortal (url : Bytes) : serOpt (.captivePortal url) =
    if 256 ≤ 1 + (padTo8 url 2).length / 8 ∨ hasNul url = true then []
    else 37 :: (1 + (padTo8 url 2).length / 8) :: padTo8 url 2 := by
  simp only [serOpt, show Generated.Ra.captiveLengthChecked = true from rfl, Bool.true_and, Bool.or_eq_true,
    decide_eq_true_eq, ge_iff_le]
  by_cases h : 256 ≤ 1 + (padTo8 url 2).length / 8 ∨ hasNul url = true
  · rw [if_pos h, if_pos h]
  · rw [if_neg h, if_neg h, Nat.mod_eq_of_lt (by omega)]; rfl

/-- RFC 8910 §2.3 read back -/
theorem decodeOpt_captivePortal {url : Bytes} (hz : ∀ b ∈ url, b ≠ 0) (k : Nat) :
    decodeOpt 37 (url ++ List.replicate k 0) = some (.captivePortal url) := by
  have e1 : (url ++ List.replicate k 0).takeWhile (· != 0) = url := by
    rw [List.takeWhile_append_of_pos fun b hb => bne_iff_ne.2 (hz b hb), List.takeWhile_replicate]
    exact List.append_nil url
  have e2 : ((url ++ List.replicate k 0).drop url.length).all (· == 0) = true := by
    rw [List.drop_left' rfl]; simp
  simp only [decodeOpt, e1, e2]
  rfl

theorem framed_captivePortal (url : Bytes) (hz : ∀ b ∈ url, b ≠ 0) (hlen : url.length ≤ 2030) :
    Framed (.captivePortal url) := by
  obtain ⟨h8, hle, hlt8⟩ := padTo8_length url 2
  have hnul : ¬ hasNul url = true := by
    simp only [hasNul, List.any_eq_true, beq_iff_eq, not_exists, not_and]
    exact hz
  exact framed_some (ty := 37) (l := 1 + (padTo8 url 2).length / 8) (body := padTo8 url 2) rfl
    (by rw [serOpt_captivePortal, if_neg (fun h => h.elim (by omega) hnul)]) (by omega) (decodeOpt_captivePortal hz _)

theorem rfc_splitDots_ne_nil (d : Bytes) : RaRfc.splitDots d ≠ [] := by
  induction d with
  | nil => simp [RaRfc.splitDots]
  | cons b d ih =>
    unfold RaRfc.splitDots at ih ⊢
    simp only [List.foldr_cons]
    split
    · simp
    · split <;> simp

theorem rfc_splitDots_cons (b : Nat) (d : Bytes) {h t} (hs : RaRfc.splitDots d = h :: t) :
    RaRfc.splitDots (b :: d) = if b = 46 then [] :: h :: t else (b :: h) :: t := by
  unfold RaRfc.splitDots at hs ⊢
  rw [List.foldr_cons, hs]

/-- the serialiser's left fold, started inside a label `cur` after the labels `acc`, against the specification's
    right fold -/
theorem split_foldl (d : Bytes) : ∀ (cur : Bytes) (acc : List Bytes) (h : Bytes) (t : List Bytes), RaRfc.splitDots d = h :: t →
    (d.foldl (fun (st : Bytes × List Bytes) b => if b = 46 then ([], st.2 ++ [st.1]) else (st.1 ++ [b], st.2)) (cur, acc)).2 ++
    [(d.foldl (fun (st : Bytes × List Bytes) b => if b = 46 then ([], st.2 ++ [st.1]) else (st.1 ++ [b], st.2)) (cur, acc)).1] =
    acc ++ (cur ++ h) :: t := by
  induction d with
  | nil => intro cur acc h t hs; cases hs; simp
  | cons b d ih =>
    intro cur acc h t hs
    obtain ⟨h', t', hd⟩ := List.exists_cons_of_ne_nil (rfc_splitDots_ne_nil d)
    rw [List.foldl_cons]
    rw [rfc_splitDots_cons b d hd] at hs
    by_cases hb : b = 46
    · rw [if_pos hb] at hs ⊢; cases hs
      rw [ih _ _ _ _ hd]; simp
    · rw [if_neg hb] at hs ⊢; cases hs
      rw [ih _ _ _ _ hd]; simp

/-- the serialiser's and the specification's ways of splitting a domain at the dots agree -/
theorem splitDots_eq (d : Bytes) : Radv.splitDots d = RaRfc.splitDots d := by
  obtain ⟨h, t, hs⟩ := List.exists_cons_of_ne_nil (rfc_splitDots_ne_nil d)
  rw [hs]
  exact split_foldl d [] [] h t hs

/-- a domain the option can carry: every label has 1..63 octets -/
def DomainOK (d : Bytes) : Prop := ∀ l ∈ RaRfc.splitDots d, 1 ≤ l.length ∧ l.length ≤ 63

theorem dnsslNames_label (fuel : Nat) (l rest : Bytes) (cur : List Bytes) (acc : List (List Bytes))
    (h1 : 1 ≤ l.length) (h63 : l.length ≤ 63) :
    dnsslNames (fuel + 1) (l.length :: (l ++ rest)) cur acc = dnsslNames fuel rest (cur ++ [l]) acc := by
  obtain ⟨n, hn⟩ : ∃ n, l.length = n + 1 := ⟨l.length - 1, by omega⟩
  rw [hn, dnsslNames]
  have c : (decide (n + 1 > 63) || decide ((l ++ rest).length < n + 1)) = false := by
    rw [List.length_append, hn, Bool.or_eq_false_iff, decide_eq_false_iff_not, decide_eq_false_iff_not]; omega
  · simp only [c, Bool.false_eq_true, if_false]
    rw [← hn, List.drop_left' rfl, List.take_left' rfl]
  · exact Nat.succ_ne_zero n

theorem dnsslNames_end (fuel : Nat) (rest : Bytes) (cur : List Bytes) (acc : List (List Bytes)) (hc : cur ≠ []) :
    dnsslNames (fuel + 1) (0 :: rest) cur acc = dnsslNames fuel rest [] (acc ++ [cur]) := by
  rw [dnsslNames, List.isEmpty_eq_false_iff.mpr hc]; rfl

/-- the labels of one name, then its terminating zero, are read as one more name -/
theorem dnsslNames_labels : ∀ (ls : List Bytes) (fuel : Nat) (rest : Bytes) (cur : List Bytes) (acc : List (List Bytes)),
    (∀ l ∈ ls, 1 ≤ l.length ∧ l.length ≤ 63) → cur ++ ls ≠ [] →
    dnsslNames (fuel + (ls.length + 1)) (ls.flatMap (fun l => (l.length % 256) :: l) ++ 0 :: rest) cur acc =
    dnsslNames fuel rest [] (acc ++ [cur ++ ls])
  | [], fuel, rest, cur, acc, _, hne => by
    rw [List.append_nil] at hne ⊢
    exact dnsslNames_end fuel rest cur acc hne
  | l :: ls, fuel, rest, cur, acc, hl, _ => by
    obtain ⟨h1, h63⟩ := hl l (by simp)
    rw [List.flatMap_cons, List.cons_append, List.cons_append, List.append_assoc, Nat.mod_eq_of_lt (by omega), List.length_cons,
      ← Nat.add_assoc, dnsslNames_label _ _ _ _ _ h1 h63,
      dnsslNames_labels ls fuel rest (cur ++ [l]) acc (fun x hx => hl x (by simp [hx])) (by simp),
      List.append_assoc, List.singleton_append]

theorem labels_length_le (ls : List Bytes) : ls.length ≤ (ls.flatMap (fun l => (l.length % 256) :: l)).length := by
  induction ls with
  | nil => simp
  | cons l ls ih => simp only [List.flatMap_cons, List.length_append, List.length_cons]; omega

theorem encodeDomain_eq (d : Bytes) :
    encodeDomain d = (RaRfc.splitDots d).flatMap (fun l => (l.length % 256) :: l) ++ [0] := by
  unfold encodeDomain; rw [splitDots_eq]

theorem dnsslNames_pad (fuel : Nat) (pad : Bytes) (acc : List (List Bytes)) (hp : ∀ b ∈ pad, b = 0) (hf : 1 ≤ fuel) :
    dnsslNames fuel pad [] acc = some acc := by
  obtain ⟨f, rfl⟩ : ∃ f, fuel = f + 1 := ⟨fuel - 1, by omega⟩
  unfold dnsslNames
  cases pad with
  | nil => simp
  | cons b rest =>
    have hb : b = 0 := hp b (by simp)
    subst hb
    have : rest.all (· == 0) = true := by
      simp only [List.all_eq_true, beq_iff_eq]
      exact fun x hx => hp x (by simp [hx])
    simp [this]

/-- the names of the option, then zero padding, are read as the list of names -/
theorem dnsslNames_domains : ∀ (ds : List Bytes) (fuel : Nat) (pad : Bytes) (acc : List (List Bytes)),
    (∀ d ∈ ds, DomainOK d) → (∀ b ∈ pad, b = 0) → (ds.flatMap encodeDomain).length + 1 ≤ fuel →
    dnsslNames fuel (ds.flatMap encodeDomain ++ pad) [] acc = some (acc ++ ds.map RaRfc.splitDots)
  | [], fuel, pad, acc, _, hp, hf => by
    simp only [List.flatMap_nil, List.nil_append, List.map_nil, List.append_nil]
    exact dnsslNames_pad fuel pad acc hp (by omega)
  | d :: ds, fuel, pad, acc, hd, hp, hf => by
    rw [List.flatMap_cons, List.length_append, encodeDomain_eq, List.length_append, List.length_singleton] at hf
    have := labels_length_le (RaRfc.splitDots d)
    -- one unit of fuel per label and one for the terminating zero
    obtain ⟨f, rfl⟩ : ∃ f, fuel = f + ((RaRfc.splitDots d).length + 1) := ⟨fuel - ((RaRfc.splitDots d).length + 1), by omega⟩
    rw [List.flatMap_cons, encodeDomain_eq, List.append_assoc, List.append_assoc, List.singleton_append,
      dnsslNames_labels (RaRfc.splitDots d) f _ [] acc (hd d (by simp)) (by simpa using rfc_splitDots_ne_nil d),
      dnsslNames_domains ds f pad _ (fun x hx => hd x (by simp [hx])) hp (by omega)]
    simp

/-- RFC 8106 §5.2 read back -/
theorem decodeOpt_dnssl {lt : Nat} (hlt : lt < 4294967296) {b : Bytes} {ds : List (List Bytes)} (hb : 8 ≤ b.length)
    (hds : ds ≠ []) (hn : dnsslNames (b.length + 7) b [] [] = some ds) :
    decodeOpt 31 ([0, 0] ++ u32 lt ++ b) = some (.dnssl lt ds) := by
  have e0 : ([0, 0] ++ u32 lt ++ b).length = b.length + 6 := by
    simp only [u32, List.length_append, List.length_cons, List.length_nil]; omega
  have c : ¬ (b.length + 6 < 14 ∨ ([0, 0] ++ u32 lt ++ b).take 2 ≠ [0, 0]) := fun h => h.elim (by omega) (· rfl)
  have e1 : ([0, 0] ++ u32 lt ++ b).drop 6 = b := rfl
  have e2 : (([0, 0] ++ u32 lt ++ b).drop 2).take 4 = u32 lt := rfl
  have e3 : ds.isEmpty = false := List.isEmpty_eq_false_iff.mpr hds
  simp only [decodeOpt, e0, if_neg c, e1, e2, hn, e3, be_u32 lt hlt]
  rfl

/-- given the checked narrowing (`Generated.Ra.dnsslLengthChecked`): left out, or the true length without `% 256` -/
theorem serOpt_dnssl (lt : Nat) (domains : List Bytes) : serOpt (.dnssl lt domains) =
    if domains = [] ∨ 256 ≤ 1 + (padTo8 (domains.flatMap encodeDomain) 0).length / 8 then []
    else 31 :: (1 + (padTo8 (domains.flatMap encodeDomain) 0).length / 8) ::
      ([0, 0] ++ u32 (clamp lt 0xffffffff) ++ padTo8 (domains.flatMap encodeDomain) 0) := by
  simp only [serOpt, show Generated.Ra.dnsslLengthChecked = true from rfl, Bool.true_and, decide_eq_true_eq,
    List.isEmpty_iff, ge_iff_le]
  by_cases he : domains = []
  · rw [if_pos he, if_pos (.inl he)]
  by_cases hf : 256 ≤ 1 + (padTo8 (domains.flatMap encodeDomain) 0).length / 8
  · rw [if_neg he, if_pos hf, if_pos (.inr hf)]
  · rw [if_neg he, if_neg hf, if_neg (fun h => h.elim he hf), Nat.mod_eq_of_lt (by omega)]; rfl

theorem framed_dnssl (lt : Nat) (domains : List Bytes) (hd : ∀ d ∈ domains, DomainOK d)
    (hsz : (domains.flatMap encodeDomain).length ≤ 2024) : Framed (.dnssl lt domains) := by
  cases domains with
  | nil => exact framed_none rfl rfl
  | cons d ds =>
    have hpos : 1 ≤ ((d :: ds).flatMap encodeDomain).length := by
      simp only [List.flatMap_cons, List.length_append, encodeDomain, List.length_singleton]; omega
    obtain ⟨h8, hle, hlt8⟩ := padTo8_length ((d :: ds).flatMap encodeDomain) 0
    refine framed_some (v := .dnssl (min lt 0xffffffff) ((d :: ds).map RaRfc.splitDots)) rfl
      (by rw [serOpt_dnssl, if_neg (fun h => h.elim (List.cons_ne_nil _ _) (by omega))]) ?_
      (decodeOpt_dnssl (clamp_lt (by decide)) (by omega) (List.cons_ne_nil _ _) ?_)
    · simp only [u32, List.length_append, List.length_cons, List.length_nil]; omega
    · exact dnsslNames_domains (d :: ds) _ _ [] hd (fun b hb => (List.mem_replicate.mp hb).2) (by omega)

/-- what an option must satisfy for the wire format to be able to carry it -/
def OptOK : NdOpt → Prop
  | .sourceLL mac => mac.length = 6
  | .mtu m => m < 4294967296
  | .prefixInfo p => p.len ≤ 128 ∧ p.addr < 2 ^ 128
  | .rdnss _ servers => servers.length ≤ 127 ∧ ∀ s ∈ servers, s < 2 ^ 128
  | .dnssl _ domains => (∀ d ∈ domains, DomainOK d) ∧ (domains.flatMap encodeDomain).length ≤ 2024
  | .pref64 _ _ pfx => pfx < 2 ^ 128
  | .captivePortal url => (∀ b ∈ url, b ≠ 0) ∧ url.length ≤ 2030

theorem framed_of_ok : ∀ (o : NdOpt), OptOK o → Framed o
  | .sourceLL mac, h => framed_sourceLL mac h
  | .mtu m, h => framed_mtu m h
  | .prefixInfo p, h => framed_prefixInfo p h.1 h.2
  | .rdnss lt servers, h => framed_rdnss lt servers h.1 h.2
  | .dnssl lt domains, h => framed_dnssl lt domains h.1 h.2
  | .pref64 lt len pfx, h => framed_pref64 lt len pfx h
  | .captivePortal url, h => framed_captivePortal url h.1 h.2

theorem flatMap_length_mod8 {α} (l : List α) (f : α → Bytes) (h : ∀ x ∈ l, (f x).length % 8 = 0) :
    (l.flatMap f).length % 8 = 0 := by
  induction l with
  | nil => rfl
  | cons a as ih =>
    simp only [List.flatMap_cons, List.length_append]
    have := h a (by simp)
    have := ih (fun x hx => h x (by simp [hx]))
    omega

/-- holds whichever narrowing sites are the checked ones: the proof splits on the extracted flags and does not use
    their values -/
theorem serOpt_length (o : NdOpt) (hll : ∀ mac, o = .sourceLL mac → mac.length = 6) : (serOpt o).length % 8 = 0 := by
  cases o with
  | sourceLL mac => rw [serOpt, List.length_append, hll mac rfl]; rfl
  | mtu m => simp only [serOpt, List.length_append, List.length_cons, List.length_nil, u32]
  | prefixInfo p => simp only [serOpt, List.length_append, List.length_cons, List.length_nil, u32, u128_length]
  | rdnss lt servers =>
    have hone : ∀ c : List Nat, (rdnssOpt lt c).length % 8 = 0 := by
      intro c
      simp only [rdnssOpt, List.length_append, List.length_cons, List.length_nil, u32, flatMap_u128_length]; omega
    simp only [serOpt]
    split
    · rfl
    · split
      · exact hone servers
      · exact flatMap_length_mod8 _ _ (fun c _ => hone c)
  | dnssl lt domains =>
    have := (padTo8_length (domains.flatMap encodeDomain) 0).1
    simp only [serOpt]
    split
    · rfl
    · split
      · rfl
      · simp only [List.length_append, List.length_cons, List.length_nil, u32]; omega
  | pref64 lt len pfx =>
    simp only [serOpt]
    cases plc len with
    | none => rfl
    | some c => simp only [List.length_append, List.length_cons, List.length_nil, u16, List.length_take, u128_length]; rfl
  | captivePortal url =>
    have := (padTo8_length url 2).1
    simp only [serOpt]
    split
    · rfl
    · simp only [List.length_append, List.length_cons, List.length_nil]; omega

/-- nothing, or an option whose length octet is its true length in units of eight -/
def WellFramed (b : Bytes) : Prop := b = [] ∨ ∃ ty l body, b = ty :: l :: body ∧ l ≠ 0 ∧ l < 256 ∧ body.length + 2 = l * 8

theorem rdnssOpt_wellFramed (lt : Nat) (c : List Nat) (h2 : c.length ≤ 127) : WellFramed (rdnssOpt lt c) := by
  right
  refine ⟨25, (1 + c.length * 2) % 256, [0, 0] ++ u32 (clamp lt 0xffffffff) ++ c.flatMap u128, rfl, by omega, by omega, ?_⟩
  simp only [List.length_append, flatMap_u128_length, u32, List.length_cons, List.length_nil]; omega

theorem rdnss_never_wraps (lt : Nat) (servers : List Nat) :
    ∃ parts : List Bytes, serOpt (.rdnss lt servers) = parts.flatten ∧ ∀ p ∈ parts, WellFramed p := by
  refine ⟨(chunks 127 servers.length servers).map (rdnssOpt lt), by rw [serOpt_rdnss_chunks, List.flatMap_def], ?_⟩
  intro p hp
  obtain ⟨c, hcm, rfl⟩ := List.mem_map.mp hp
  exact rdnssOpt_wellFramed lt c (chunks_bounds 127 (by decide) _ _ c hcm).2

theorem dnssl_never_wraps (lt : Nat) (domains : List Bytes) : WellFramed (serOpt (.dnssl lt domains)) := by
  obtain ⟨h8, -, -⟩ := padTo8_length (domains.flatMap encodeDomain) 0
  rw [serOpt_dnssl]
  by_cases h : domains = [] ∨ 256 ≤ 1 + (padTo8 (domains.flatMap encodeDomain) 0).length / 8
  · rw [if_pos h]; exact .inl rfl
  · rw [if_neg h]
    refine .inr ⟨31, _, _, rfl, by omega, by omega, ?_⟩
    simp only [List.length_append, u32, List.length_cons, List.length_nil]; omega

theorem captive_never_wraps (url : Bytes) : WellFramed (serOpt (.captivePortal url)) := by
  obtain ⟨h8, -, -⟩ := padTo8_length url 2
  rw [serOpt_captivePortal]
  by_cases h : 256 ≤ 1 + (padTo8 url 2).length / 8 ∨ hasNul url = true
  · rw [if_pos h]; exact .inl rfl
  · rw [if_neg h]; exact .inr ⟨37, _, _, rfl, by omega, by omega, by omega⟩

theorem decodeOpts_step (fuel ty l : Nat) (body tail : Bytes) (acc : List Opt) (v : Opt)
    (hl : l ≠ 0) (hb : body.length = l * 8 - 2) (hd : decodeOpt ty body = some v) :
    decodeOpts (fuel + 1) (ty :: l :: (body ++ tail)) acc = decodeOpts fuel tail (acc ++ [v]) := by
  have h1 : ¬ (l = 0 ∨ (body ++ tail).length < l * 8 - 2) := by rw [List.length_append]; omega
  rw [decodeOpts, if_neg h1, List.take_left' hb, List.drop_left' hb, hd]

theorem decodeOpts_all : ∀ (opts : List NdOpt) (fuel : Nat) (acc : List Opt), (∀ o ∈ opts, Framed o) →
    (opts.flatMap serOpt).length + 1 ≤ fuel →
    decodeOpts fuel (opts.flatMap serOpt) acc = some (acc ++ opts.filterMap specOpt)
  | [], fuel, acc, _, hf => by
    obtain ⟨f, rfl⟩ : ∃ f, fuel = f + 1 := ⟨fuel - 1, by omega⟩
    simp [decodeOpts]
  | o :: opts, fuel, acc, h, hf => by
    have ho : Framed o := h o (by simp)
    have ih := fun fuel' acc' => decodeOpts_all opts fuel' acc' (fun x hx => h x (by simp [hx]))
    rw [List.flatMap_cons, List.length_append] at hf
    rw [List.flatMap_cons, List.filterMap_cons]
    unfold Framed at ho
    cases hs : specOpt o with
    | none =>
      rw [hs] at ho
      rw [ho] at hf ⊢
      exact ih fuel acc (by simpa using hf)
    | some v =>
      rw [hs] at ho
      obtain ⟨ty, l, body, hser, hl, hb, hd⟩ := ho
      obtain ⟨f, rfl⟩ : ∃ f, fuel = f + 1 := ⟨fuel - 1, by omega⟩
      rw [hser, List.length_cons, List.length_cons] at hf
      rw [hser, List.cons_append, List.cons_append, decodeOpts_step f ty l body _ acc v hl hb hd, ih f (acc ++ [v]) (by omega)]
      simp

/-- what the RFC decoder is expected to read for a whole advertisement -/
def specRa (a : Advert) : Ra :=
  { hopLimit := a.hopLimit, managed := a.managed, other := a.other, lifetime := min a.lifetime 65535,
    reachableMs := min (a.reachable * 1000) 0xffffffff, retransMs := min (a.retrans * 1000) 0xffffffff,
    options := a.options.filterMap specOpt }

theorem serialise_header (a : Advert) :
    let w := serialise a
    be ((w.drop 6).take 2) = min a.lifetime 65535 ∧
    be ((w.drop 8).take 4) = min (a.reachable * 1000) 0xffffffff ∧
    be ((w.drop 12).take 4) = min (a.retrans * 1000) 0xffffffff ∧
    w.getD 4 0 = a.hopLimit % 256 ∧
    w.getD 5 0 = (if a.managed then 128 else 0) + (if a.other then 64 else 0) :=
  ⟨be_u16_clamp _, be_u32_clamp _, be_u32_clamp _, rfl, rfl⟩

theorem serialise_length (a : Advert) : (serialise a).length = 16 + (a.options.flatMap serOpt).length := by
  simp only [serialise, List.length_append, List.length_cons, List.length_nil, u16, u32]

/-- **serialise, then decode by the RFCs**: every advertisement whose hop limit fits an octet and whose options the wire
    format can carry is read back as exactly its values (clamped where a field is too narrow, never wrapped) -/
theorem decode_serialise (a : Advert) (hh : a.hopLimit < 256) (ho : ∀ o ∈ a.options, OptOK o) :
    decode (serialise a) = some (specRa a) := by
  have hfr : ∀ o ∈ a.options, Framed o := fun o h => framed_of_ok o (ho o h)
  have hl8 := flatMap_length_mod8 a.options serOpt fun o h => serOpt_length o fun mac e => by subst e; exact ho _ h
  have hlen := serialise_length a
  obtain ⟨h6, h8, h12, h4, h5⟩ := serialise_header a
  obtain ⟨f0, f1, f2⟩ := flags_decode a.managed a.other
  have hopts : decodeOpts ((serialise a).length + 1) ((serialise a).drop 16) [] = some (a.options.filterMap specOpt) :=
    decodeOpts_all a.options _ [] hfr (by rw [hlen]; omega)
  have g0 : (serialise a).getD 0 0 = 134 := rfl
  have g1 : (serialise a).getD 1 0 = 0 := rfl
  unfold decode
  rw [if_neg (by omega),      -- the length: at least the header, whole units of eight
    if_neg (by omega),        -- type 134, code 0
    h5, if_neg (by omega),    -- the reserved flag bits
    hopts]
  simp only [h4, h6, h8, h12, f1, f2, Nat.mod_eq_of_lt hh]
  rfl

end Erbium.RaCodec
